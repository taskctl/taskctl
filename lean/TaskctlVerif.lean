import TaskctlVerif.Model.Graph
import TaskctlVerif.Model.Sched
import TaskctlVerif.Model.Nested
import TaskctlVerif.Model.Tree
import TaskctlVerif.Model.SchedMulti
import TaskctlVerif.Model.SchedLoops
import TaskctlVerif.Proofs.SchedLoops
import TaskctlVerif.Proofs.SchedLoopsAgree
import TaskctlVerif.Model.GlobalCfg
import TaskctlVerif.Proofs.GlobalCfg
import TaskctlVerif.Model.Runner
import TaskctlVerif.Model.Cli
import TaskctlVerif.Proofs.Graph
import TaskctlVerif.Proofs.Stage
import TaskctlVerif.Proofs.Sched
import TaskctlVerif.Proofs.SchedLoop
import TaskctlVerif.Proofs.SchedFair
import TaskctlVerif.Proofs.Runner
import TaskctlVerif.Props.C01
import TaskctlVerif.Props.C02
import TaskctlVerif.Props.C03
import TaskctlVerif.Props.C04
import TaskctlVerif.Props.C05
import TaskctlVerif.Props.C06
import TaskctlVerif.Props.C07
import TaskctlVerif.Model.Cancel
import TaskctlVerif.Model.CtxHooks
import TaskctlVerif.Props.C12
import TaskctlVerif.Props.C14
import TaskctlVerif.Model.Timeout
import TaskctlVerif.Props.C13
import TaskctlVerif.Model.Layers
import TaskctlVerif.Proofs.Layers
import TaskctlVerif.Props.C08
import TaskctlVerif.Props.C09
import TaskctlVerif.Model.Vars
import TaskctlVerif.Model.Derived
import TaskctlVerif.Proofs.Derived
import TaskctlVerif.Props.C10
import TaskctlVerif.Model.Capture
import TaskctlVerif.Props.C11
import TaskctlVerif.Model.Imports
import TaskctlVerif.Proofs.Imports
import TaskctlVerif.Props.C17
import TaskctlVerif.Model.Refs
import TaskctlVerif.Props.C18
import TaskctlVerif.Model.Loader
import TaskctlVerif.Props.C15
import TaskctlVerif.Model.Output
import TaskctlVerif.Proofs.Output
import TaskctlVerif.Model.CockpitLocks
import TaskctlVerif.Proofs.CockpitLocks
import TaskctlVerif.Props.C19
import TaskctlVerif.Model.Decode
import TaskctlVerif.Props.C16
import TaskctlVerif.Model.Glob
import TaskctlVerif.Props.C20
