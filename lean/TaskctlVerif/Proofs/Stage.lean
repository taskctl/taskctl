import TaskctlVerif.Model.Sched
/-!
# The life cycle of one stage

Both scheduler models (`Model/Sched.lean`, one loop; `Model/SchedLoops.lean`, several) keep a status, a
goroutine state and a start counter per stage, and every action writes them at one stage only.  `Move`
lists the writes there are.  What the invariants say stage by stage is kept by each of them (`Move.coh`,
`Move.ok_mono`, `Move.started`, `Move.once`, in `Proofs/Sched.lean` `Move.agr`), so a model only has to
show that its actions are such writes (`Sched.step_move`, `SchedLoops.lstep_move`).  `Sat c σ d` and
`LSat c σ d` both unfold to `Ok c d (σ.status d)`.
-/
namespace Sched

@[simp] theorem upd_same {α} (f : Nat → α) k v : upd f k v k = v := by simp [upd]
theorem upd_other {α} (f : Nat → α) k v i (h : i ≠ k) : upd f k v i = f i := by simp [upd, h]
theorem upd_apply {α} (f : Nat → α) k v i : upd f k v i = if i = k then v else f i := rfl
attribute [grind =] upd_apply
theorem upd_self {α} (f : Nat → α) k : upd f k (f k) = f := by
  funext i; rw [upd_apply]; split <;> simp [*]
@[simp] theorem upd_upd {α} (f : Nat → α) (k : Nat) (v w : α) : upd (upd f k v) k w = upd f k w := by
  funext i; simp only [upd]; split <;> rfl

/-- Status `v` of stage `d` satisfies the stages that depend on `d`.  The models' own `Sat c σ d` and
`LSat c σ d` are `Ok c d (σ.status d)` written out, so a proof of one is a proof of the other. -/
def Ok (c : Cfg) (d : Nat) (v : Status) : Prop :=
  v = .done ∨ v = .skipped ∨ (v = .error ∧ c.allow d = true)

/-- a dependency just read, and found satisfied, is no longer among those still to be read -/
theorem read_dep {P : Nat → Prop} {d x : Nat} {rest : List Nat} (hd : P d) :
    x ∈ d :: rest ∨ P x → x ∈ rest ∨ P x
  | .inl (.head _) => .inr hd
  | .inl (.tail _ hm) => .inl hm
  | .inr hs => .inr hs

/-- status `v` of stage `d` makes the loop cancel the stages that depend on `d` -/
def Bad (c : Cfg) (d : Nat) (v : Status) : Prop := v = .canceled ∨ (v = .error ∧ ¬ c.allow d = true)

instance (c : Cfg) (d : Nat) (v : Status) : Decidable (Bad c d v) := by unfold Bad; infer_instance

theorem Bad.not_ok {c d v} : Bad c d v → ¬ Ok c d v := by
  rintro (rfl | ⟨rfl, h⟩) <;> simp [Ok, *]

/-- a status that is neither waiting nor running satisfies the dependants or makes the loop cancel them -/
theorem ok_or_bad {c d v} (h : v ≠ .waiting ∧ v ≠ .running) : Ok c d v ∨ Bad c d v := by
  unfold Ok Bad
  cases v <;> cases ha : c.allow d <;> simp_all

/-- status `v` and goroutine state `w` of one stage fit together -/
def Coh (v : Status) (w : G) : Prop :=
  (w = .none → v = .waiting ∨ v = .skipped ∨ v = .canceled ∨ v = .error) ∧
  (w = .inRun → v = .running) ∧ (v = .running → w = .inRun) ∧
  (w = .afterErr → v = .error) ∧ (w = .fin → v = .done ∨ v = .error)

theorem Coh.none {v w} (h : Coh v w) (hv : v = .waiting ∨ v = .canceled) : w = .none := by
  cases w <;> grind [Coh]

/-- a stage that satisfies its dependants is neither waiting nor running, and not inside `Run` -/
theorem Coh.of_ok {c d v w} (h : Coh v w) (hv : Ok c d v) : v ≠ .waiting ∧ v ≠ .running ∧ w ≠ .inRun := by
  rcases hv with rfl | rfl | ⟨rfl, _⟩ <;> simp [Coh] at h <;> simp [h]

/-- a stage that is neither waiting nor running and whose goroutine has no write left to make has a
goroutine exactly when it is done or failed (`he`: it was not stopped by its condition) -/
theorem Coh.settled_started {v w} (hc : Coh v w) (he : v = .error → w ≠ .none)
    (h : v ≠ .waiting ∧ v ≠ .running ∧ w ≠ .afterErr) :
    (w ≠ .none ↔ v = .done ∨ v = .error) ∧ (w = .none ↔ v = .skipped ∨ v = .canceled) := by
  cases w <;> grind [Coh]

/-- What a step of the life cycle may have to know of the action that makes it.  `Move` does not know
a model's action type: a model says which observations are true of its action (`Sched.At`,
`SchedLoops.LAt`), and each constructor of `Move` demands only those it needs.  So a lemma can put its
hypotheses on exactly them: `Move.agr` needs the final-status equations only under `.loop _` and the
task's outcome only under `.ret s ok`.  `.flag` is the odd one out, a fact about the state after the
action: only `Move.deny` asks for it, so that the error-flag invariant is read off the moves
(`Move.failed`) without a second case analysis. -/
inductive Obs
  | loop (pc : Pc)             -- the action is a loop's, and that loop stood at `pc`
  | ret (s : Nat) (ok : Bool)  -- `Run` of stage `s` returns, with success or not
  | flag                       -- the error flag is up after the action

/-- One action's effect on stage `s`: nothing, or one step of the life cycle of a stage, from its
status, goroutine state and start counter before the action to those after it.  `st` is the status map
before the action, `E` what holds of the action.  `cancel` may find the stage `canceled` already: by an
earlier read of the same examination, or by another loop. -/
inductive Move (c : Cfg) (E : Obs → Prop) (st : Nat → Status) (s : Nat) :
    Status → G → Nat → Status → G → Nat → Prop
  | stay {v w k} : Move c E st s v w k v w k
  | skip {k} : E (.loop .idle) → c.cond s = .fails → Move c E st s .waiting .none k .skipped .none k
  | cerr {k} : E (.loop .idle) → c.cond s = .err → Move c E st s .waiting .none k .error .none k
  | cancel {v k d rest ready} : v = .waiting ∨ v = .canceled → E (.loop (.check s (d :: rest) ready)) →
      Bad c d (st d) → Move c E st s v .none k .canceled .none k
  | start {k ready} : E (.loop (.check s [] ready)) → (∀ d ∈ c.deps s, Ok c d (st d)) →
      Move c E st s .waiting .none k .running .inRun (k + 1)
  | ok {k} : E (.ret s true) → Move c E st s .running .inRun k .done .fin k
  | fail {k} : E (.ret s false) → Move c E st s .running .inRun k .error .afterErr k
  | allow {k} : c.allow s = true → Move c E st s .error .afterErr k .done .fin k
  | deny {k} : E .flag → ¬ c.allow s = true → Move c E st s .error .afterErr k .error .fin k

variable {c : Cfg} {E : Obs → Prop} {st st' : Nat → Status}
  {g g' : Nat → G} {ct ct' : Nat → Nat} {s t : Nat} {v v' v₀ : Status} {w w' w₀ : G} {k k' : Nat}

/-- a write at stage `t` moves `t` and lets the others stay -/
theorem Move.write_all (hv : st t = v₀) (hw : g t = w₀) (h : Move c E st t v₀ w₀ (ct t) v w k)
    (x : Nat) :
    Move c E st x (st x) (g x) (ct x) (upd st t v x) (upd g t w x) (upd ct t k x) := by
  rw [upd_apply, upd_apply, upd_apply]; split
  · subst x hv hw; exact h
  · exact .stay

theorem Move.write (hv : st t = v₀) (hw : g t = w₀) (h : Move c E st t v₀ w₀ (ct t) v w (ct t))
    (x : Nat) : Move c E st x (st x) (g x) (ct x) (upd st t v x) (upd g t w x) (ct x) := by
  have := h.write_all hv hw x; rwa [upd_self] at this

theorem Move.write_st (hv : st t = v₀) (hw : g t = w₀) (h : Move c E st t v₀ w₀ (ct t) v w₀ (ct t))
    (x : Nat) : Move c E st x (st x) (g x) (ct x) (upd st t v x) (g x) (ct x) := by
  have := h.write hv hw x; rwa [← hw, upd_self] at this

theorem Move.write_g (hv : st t = v₀) (hw : g t = w₀) (h : Move c E st t v₀ w₀ (ct t) v₀ w (ct t))
    (x : Nat) : Move c E st x (st x) (g x) (ct x) (st x) (upd g t w x) (ct x) := by
  have := h.write hv hw x; rwa [← hv, upd_self] at this

namespace Move
variable (h : Move c E st s v w k v' w' k')
include h

theorem coh (hc : Coh v w) : Coh v' w' := by
  cases h <;> first | exact hc | simp [Coh]

/-- a satisfied dependency stays satisfied -/
theorem ok_mono : Ok c s v → Ok c s v' := by
  cases h <;> grind [Ok]

/-- a goroutine is started only when all dependencies are satisfied -/
theorem started (hw : w' ≠ .none) : w ≠ .none ∨ ∀ d ∈ c.deps s, Ok c d (st d) := by
  cases h <;> simp_all

/-- a stage is started once -/
theorem once (hk : k = if w = .none then 0 else 1) : k' = if w' = .none then 0 else 1 := by
  cases h <;> simp_all

/-- a decided stage stays decided -/
theorem decided (hv : v ≠ .waiting ∧ v ≠ .running) : v' ≠ .waiting ∧ v' ≠ .running := by
  cases h <;> simp_all

/-- a stage is skipped only when its condition fails -/
theorem skipped (hv : v' = .skipped) : v = .skipped ∨ c.cond s = .fails := by
  cases h <;> simp_all

/-- only a failing evaluation of its condition stops a stage with an error before it has started -/
theorem cerror (hw : w' = .none) (hv : v' = .error) : (w = .none ∧ v = .error) ∨ c.cond s = .err := by
  cases h <;> simp_all

/-- a stage whose goroutine ended with an error stays so -/
theorem failed_stays (hw : w = .fin) (hv : v = .error) : w' = .fin ∧ v' = .error := by
  cases h <;> simp_all

/-- a goroutine ends with an error only as the error flag goes up -/
theorem failed (hw : w' = .fin) (hv : v' = .error) : (w = .fin ∧ v = .error) ∨ E .flag := by
  cases h <;> simp_all

end Move

/-- an action that is not a loop's does not touch a stage without goroutine -/
theorem Move.not_loop (h : Move c E st s v .none k v' w' k') (hE : ∀ p, ¬ E (.loop p)) : v' = v ∧ w' = .none := by
  cases h <;> first | exact ⟨rfl, rfl⟩ | exact absurd ‹E _› (hE _)

/-- the stage-by-stage part of the invariants is preserved by moves -/
theorem moves_stages (hm : ∀ x, Move c E st x (st x) (g x) (ct x) (st' x) (g' x) (ct' x))
    (hc : ∀ s, Coh (st s) (g s)) (hs : ∀ s, g s ≠ .none → ∀ d ∈ c.deps s, Ok c d (st d)) :
    (∀ s, Coh (st' s) (g' s)) ∧ (∀ s, g' s ≠ .none → ∀ d ∈ c.deps s, Ok c d (st' d)) :=
  ⟨fun s => (hm s).coh (hc s), fun s hg d hd => (hm d).ok_mono <|
    match (hm s).started hg with
    | .inl h => hs s h d hd
    | .inr h => h d hd⟩

end Sched
