import TaskctlVerif.Proofs.Sched
/-!
# The loop thread of the scheduler model (helpers for C03 and C04)

One *examination* of a stage (`visitFull`, the loop's visit, dependency reads and decision taken
together): `visitFull_eq` gives its result in closed form, and everything the properties need to know
about an examination follows by rewriting with it.  One *pass* (`pass`): a run of loop actions, one
examination after the other.
-/
namespace Sched

/-! ## One examination of a stage -/

instance (c : Cfg) (σ : St) (d : Nat) : Decidable (Sat c σ d) := by unfold Sat; infer_instance

@[simp] theorem sat_pc (c : Cfg) (σ : St) (pc : Pc) (x : Nat) :
    Sat c { σ with pc := pc } x ↔ Sat c σ x := Iff.rfl

/-- one dependency read: `ready` survives a satisfied dependency, a blocking one cancels the stage -/
theorem step_read (c : Cfg) (σ : St) {s d : Nat} {rest : List Nat} {ready : Bool}
    (h : σ.pc = .check s (d :: rest) ready) :
    step c σ .read = { σ with pc := .check s rest (ready && decide (Sat c σ d)),
                              status := if Bad c d (σ.status d) then upd σ.status s .canceled else σ.status } := by
  simp only [step, h]
  split <;> (try split) <;> simp_all [Sat, Bad]

/-- marking a stage that is not satisfied as `canceled` changes nobody's being satisfied -/
theorem sat_cancel (c : Cfg) (σ : St) (s : Nat) (pc : Pc) (hs : ¬ Sat c σ s) (x : Nat) :
    Sat c { σ with pc := pc, status := upd σ.status s .canceled } x ↔ Sat c σ x := by
  by_cases hx : x = s
  · subst hx; simpa [Sat] using hs
  · simp [Sat, upd_apply, hx]

/-- all the dependency reads of an examination: `ready` survives iff every dependency is satisfied,
the stage is marked `canceled` iff one of them blocks.  The stage under examination may be among its
own dependencies: `¬ Sat c σ s` says that it is not satisfied while it is examined. -/
theorem run_reads (c : Cfg) {s : Nat} : ∀ (rest : List Nat) (σ : St) (ready : Bool),
    σ.pc = .check s rest ready → ¬ Sat c σ s →
    run c σ (List.replicate rest.length .read) =
      { σ with pc := .check s [] (ready && rest.all fun d => decide (Sat c σ d)),
               status := if ∃ d ∈ rest, Bad c d (σ.status d) then upd σ.status s .canceled else σ.status }
  | [], σ, ready, h, _ => by cases σ; simp_all [run]
  | d :: rest, σ, ready, h, hs => by
    rw [List.length_cons, List.replicate_succ, run_cons, step_read c σ h]
    by_cases hb : Bad c d (σ.status d)
    · have hsat := sat_cancel c σ s (.check s rest (ready && decide (Sat c σ d))) hs
      rw [if_pos hb, run_reads c rest _ _ rfl (by rw [hsat]; exact hs)]
      simp [hsat, hb, Bool.and_assoc]
    · rw [if_neg hb, run_reads c rest { σ with pc := .check s rest (ready && decide (Sat c σ d)) } _ rfl hs]
      simp [hb, Bool.and_assoc]

/-- `k` dependency reads followed by the decision -/
def finishVisit (c : Cfg) (σ : St) (k : Nat) : St :=
  step c (run c σ (List.replicate k .read)) .decide


/-- the dependency reads and the decision, started anywhere in the examination of `s`: if the
dependencies still to be read are all decided, `s` is not left waiting -/
theorem reads_finish (c : Cfg) :
    ∀ (rest : List Nat) (σ : St) (s : Nat) (ready : Bool),
      σ.pc = .check s rest ready →
      (∀ d ∈ rest, d ≠ s ∧ Decided σ d) →
      (ready = true ∧ σ.status s = .waiting ∨ σ.status s = .canceled) →
      (finishVisit c σ rest.length).status s ≠ .waiting := by
  intro rest σ s ready hpc hdec hr
  have hs : ¬ Sat c σ s := by rcases hr with ⟨_, h⟩ | h <;> simp [Sat, h]
  rw [finishVisit, run_reads c rest σ ready hpc hs]
  by_cases hb : ∃ d ∈ rest, Bad c d (σ.status d)
  · simp only [step, if_pos hb]; split <;> simp
  · -- no dependency blocks and all are decided: all are satisfied, `ready` survives
    have hall : (rest.all fun d => decide (Sat c σ d)) = true := List.all_eq_true.mpr fun d hd =>
      decide_eq_true ((ok_or_bad (hdec d hd).2).resolve_right fun h => hb ⟨d, hd, h⟩)
    simp only [step, if_neg hb, hall, Bool.and_true]
    rcases hr with ⟨rfl, _⟩ | h
    · simp
    · split <;> simp [h]

theorem run_reads_idle (c : Cfg) (σ : St) (h : σ.pc = .idle) (k : Nat) :
    run c σ (List.replicate k .read) = σ := by
  induction k with
  | zero => rfl
  | succ k ih => rw [List.replicate_succ, run_cons]; simpa [step, h] using ih

/-- **one complete examination of a stage, in closed form**: a stage that is not waiting is left
alone; a waiting one is skipped by a false condition, fails (and cancels the run) on a condition that
cannot be evaluated, is started when every dependency is satisfied, is cancelled when one of them
blocks, and is left waiting otherwise.  Nothing else changes. -/
theorem visitFull_eq (c : Cfg) (σ : St) (t : Nat) (hidle : σ.pc = .idle) :
    visitFull c σ t =
      if σ.status t = .waiting then
        match c.cond t with
        | .fails => { σ with status := upd σ.status t .skipped }
        | .err => { σ with status := upd σ.status t .error, cancelled := true }
        | _ =>
          if ∀ d ∈ c.deps t, Sat c σ d then
            { σ with status := upd σ.status t .running, g := upd σ.g t .inRun,
                     starts := upd σ.starts t (σ.starts t + 1) }
          else if ∃ d ∈ c.deps t, Bad c d (σ.status d) then { σ with status := upd σ.status t .canceled }
          else σ
      else σ := by
  unfold visitFull
  by_cases hw : σ.status t = .waiting
  · have hrd := run_reads c (s := t) (c.deps t) { σ with pc := .check t (c.deps t) true } true rfl
      (by simp [Sat, hw])
    have hσ : { σ with pc := .idle } = σ := by cases σ; simp_all
    cases hc : c.cond t <;> simp [step, hidle, hw, hc, run_reads_idle, hrd]
    all_goals
      by_cases hall : ∀ d ∈ c.deps t, Sat c σ d
      · have : ¬ ∃ d ∈ c.deps t, Bad c d (σ.status d) := fun ⟨d, hd, hb⟩ => hb.not_ok (hall d hd)
        rw [if_pos hall, if_pos hall, if_neg this]
      · rw [if_neg hall, if_neg hall]; split <;> simp [hσ]
  · simp [step, hidle, hw, run_reads_idle c σ hidle]

theorem visitFull_idle (c : Cfg) (σ : St) (t : Nat) (hidle : σ.pc = .idle) :
    (visitFull c σ t).pc = .idle := by
  rw [visitFull_eq c σ t hidle]; repeat' split
  all_goals exact hidle

/-- an examination touches no stage but the examined one, and that one only if it is waiting -/
theorem visitFull_frame (c : Cfg) (σ : St) (t : Nat) (hidle : σ.pc = .idle) (s : Nat)
    (hs : s ≠ t ∨ σ.status s ≠ .waiting) :
    (visitFull c σ t).status s = σ.status s ∧ (visitFull c σ t).g s = σ.g s := by
  rw [visitFull_eq c σ t hidle]
  by_cases hst : s = t
  · subst hst; rw [if_neg (hs.resolve_left (· rfl))]; exact ⟨rfl, rfl⟩
  · repeat' split
    all_goals simp [upd_apply, hst]

theorem sat_visitFull (c : Cfg) (σ : St) (t : Nat) (hidle : σ.pc = .idle) (d : Nat)
    (h : Sat c σ d) : Sat c (visitFull c σ t) d := by
  have := (visitFull_frame c σ t hidle d (.inr (by rcases h with h | h | ⟨h, _⟩ <;> simp [h]))).1
  unfold Sat at *; rwa [this]

/-- examining a waiting stage whose dependencies are all satisfied starts it -/
theorem visitFull_starts (c : Cfg) (σ : St) (s : Nat) (hidle : σ.pc = .idle)
    (hw : σ.status s = .waiting) (hc1 : c.cond s ≠ .fails) (hc2 : c.cond s ≠ .err)
    (hsat : ∀ d ∈ c.deps s, Sat c σ d) :
    (visitFull c σ s).status s = .running ∧ (visitFull c σ s).g s = .inRun := by
  rw [visitFull_eq c σ s hidle, if_pos hw]
  split <;> simp_all

/-- examining a waiting stage whose dependencies are all decided decides it -/
theorem visitFull_decides (c : Cfg) (σ : St) (s : Nat) (hidle : σ.pc = .idle)
    (hw : σ.status s = .waiting) (hdeps : ∀ d ∈ c.deps s, Decided σ d) :
    (visitFull c σ s).status s ≠ .waiting := by
  rw [visitFull_eq c σ s hidle, if_pos hw]
  split
  · simp
  · simp
  · split
    · simp
    · rename_i hall
      -- a dependency that is not satisfied is decided, hence blocks
      have : ∃ d ∈ c.deps s, Bad c d (σ.status d) := by
        apply Classical.byContradiction
        intro hnb
        exact hall fun d hd => (ok_or_bad (hdeps d hd)).resolve_right fun hb => hnb ⟨d, hd, hb⟩
      rw [if_pos this]; simp

/-! ## One pass -/

/-- the list of actions a complete visit consists of -/
def visitActs (c : Cfg) (t : Nat) : List Act :=
  .visit t :: (List.replicate (c.deps t).length .read ++ [.decide])

theorem visitFull_eq_run (c : Cfg) (σ : St) (t : Nat) : visitFull c σ t = run c σ (visitActs c t) := by
  simp [visitFull, visitActs, run, List.foldl_append]

theorem visitActs_loop (c : Cfg) (t : Nat) : ∀ a ∈ visitActs c t, a.isLoop = true := by
  intro a ha
  simp only [visitActs, List.mem_cons, List.mem_append, List.mem_replicate, List.not_mem_nil,
    or_false] at ha
  rcases ha with rfl | ⟨_, rfl⟩ | rfl <;> rfl

theorem pass_eq_run (c : Cfg) (order : List Nat) (σ : St) :
    pass c σ order = run c σ (order.flatMap (visitActs c)) := by
  induction order generalizing σ with
  | nil => rfl
  | cons t rest ih =>
    simp only [pass, List.foldl_cons, List.flatMap_cons]
    rw [run_append, ← visitFull_eq_run]
    exact ih _

theorem passActs_loop (c : Cfg) (order : List Nat) :
    ∀ a ∈ order.flatMap (visitActs c), a.isLoop = true := by
  intro a ha
  obtain ⟨t, _, h⟩ := List.mem_flatMap.mp ha
  exact visitActs_loop c t a h

/-- what holds between two examinations and is kept by every examination holds after the pass -/
theorem pass_induction {c : Cfg} {P : St → Prop} (order : List Nat) {σ : St} (hidle : σ.pc = .idle)
    (h0 : P σ) (hstep : ∀ σ t, σ.pc = .idle → P σ → P (visitFull c σ t)) :
    P (pass c σ order) ∧ (pass c σ order).pc = .idle :=
  List.foldlRecOn (motive := fun σ => P σ ∧ σ.pc = .idle) order (visitFull c) ⟨h0, hidle⟩
    fun σ h t _ => ⟨hstep σ t h.2 h.1, visitFull_idle c σ t h.2⟩

/-- A pass examines every stage of its order.  If `R` (the examination of `s` will achieve `Q`) is kept
by the examinations of the other stages, and `Q` by all, then `Q` holds after the pass. -/
theorem pass_examines {c : Cfg} {R Q : St → Prop} {s : Nat}
    (hQ : ∀ τ t, τ.pc = .idle → Q τ → Q (visitFull c τ t))
    (hR : ∀ τ t, τ.pc = .idle → t ≠ s → R τ → R (visitFull c τ t))
    (hS : ∀ τ, τ.pc = .idle → R τ → Q (visitFull c τ s)) :
    ∀ (order : List Nat) (σ : St), σ.pc = .idle → s ∈ order → R σ → Q (pass c σ order)
  | t :: rest, σ, hidle, hs, h => by
    have hidle' := visitFull_idle c σ t hidle
    show Q (pass c (visitFull c σ t) rest)
    by_cases hst : t = s
    · exact (pass_induction rest hidle' (hst ▸ hS σ hidle h) hQ).1
    · exact pass_examines hQ hR hS rest _ hidle'
        ((List.mem_cons.mp hs).resolve_left (Ne.symm hst)) (hR σ t hidle hst h)

/-- a pass touches no stage that is not waiting -/
theorem pass_frame (c : Cfg) (order : List Nat) (σ : St) (hidle : σ.pc = .idle) (s : Nat)
    (hs : σ.status s ≠ .waiting) :
    (pass c σ order).status s = σ.status s ∧ (pass c σ order).g s = σ.g s :=
  (pass_induction (P := fun τ => τ.status s = σ.status s ∧ τ.g s = σ.g s) order hidle ⟨rfl, rfl⟩
    fun τ t hτ h => by
      have := visitFull_frame c τ t hτ s (.inr (by rw [h.1]; exact hs))
      exact ⟨this.1.trans h.1, this.2.trans h.2⟩).1

theorem pass_idle (c : Cfg) (order : List Nat) (σ : St) (hidle : σ.pc = .idle) :
    (pass c σ order).pc = .idle :=
  (pass_induction (P := fun _ => True) order hidle trivial fun _ _ _ _ => trivial).2

end Sched
