import TaskctlVerif.Proofs.SchedLoop
/-!
# A fair driver for the scheduler model and its termination (helpers for C03)

`weight` is the per-stage variant.  `round` is one step of a fair schedule: every task in flight
returns (with the outcome `okf` picks) and finishes its goroutine, then the loop makes one complete
pass.  `rounds` iterates `round` the way `Schedule` iterates its `for !isDone` loop.  The lemmas here
show that a round strictly decreases the total weight unless the run is over; the property theorems
are in `Props/C03.lean`.
-/
namespace Sched

/-- per-stage weight -/
def weight (σ : St) (s : Nat) : Nat :=
  match σ.g s with
  | .inRun => 2
  | .afterErr => 1
  | .fin => 0
  | .none => if σ.status s = .waiting then 3 else 0

theorem weight_waiting {c σ} (hi : Inv c σ) {s} (h : σ.status s = .waiting) : weight σ s = 3 := by
  simp [weight, (hi.coh s).none (.inl h), h]

theorem weight_lt_of_not_waiting {σ : St} {s} (h : σ.status s ≠ .waiting) : weight σ s < 3 := by
  unfold weight; split <;> simp [h]

theorem weight_step_le (c : Cfg) (σ : St) (a : Act) (hi : Inv c σ) (s : Nat) :
    weight (step c σ a) s ≤ weight σ s := by
  have h := step_move a hi s
  unfold weight
  generalize σ.status s = v, σ.g s = w, σ.starts s = k, (step c σ a).status s = v',
    (step c σ a).g s = w', (step c σ a).starts s = k' at h
  cases h <;> simp

theorem weight_run_le (c : Cfg) (as : List Act) (σ : St) (hi : Inv c σ) (s : Nat) :
    weight (run c σ as) s ≤ weight σ s :=
  (List.foldlRecOn (motive := fun τ => Inv c τ ∧ weight τ s ≤ weight σ s) as (step c)
    ⟨hi, Nat.le_refl _⟩
    fun τ h a _ => ⟨inv_step c τ a h.1, Nat.le_trans (weight_step_le c τ a h.1 s) h.2⟩).2

/-- total weight of the stages `0 … n-1` -/
def totalW (n : Nat) (σ : St) : Nat := ((List.range n).map (weight σ)).sum

theorem sum_map_le {l : List Nat} {f g : Nat → Nat} (h : ∀ x ∈ l, f x ≤ g x) :
    (l.map f).sum ≤ (l.map g).sum := by
  induction l with
  | nil => simp
  | cons a l ih =>
    simp only [List.map_cons, List.sum_cons]
    have h1 := h a List.mem_cons_self
    have h2 := ih (fun x hx => h x (List.mem_cons_of_mem _ hx))
    omega

theorem sum_map_lt {l : List Nat} {f g : Nat → Nat} (h : ∀ x ∈ l, f x ≤ g x)
    (hs : ∃ x ∈ l, f x < g x) : (l.map f).sum < (l.map g).sum := by
  induction l with
  | nil => obtain ⟨x, hx, _⟩ := hs; cases hx
  | cons a l ih =>
    simp only [List.map_cons, List.sum_cons]
    have h1 := h a List.mem_cons_self
    have h2 := sum_map_le (fun x hx => h x (List.mem_cons_of_mem _ hx))
    obtain ⟨x, hx, hlt⟩ := hs
    rcases List.mem_cons.mp hx with rfl | hx'
    · omega
    · have := ih (fun x hx => h x (List.mem_cons_of_mem _ hx)) ⟨x, hx', hlt⟩
      omega

theorem weight_init (s : Nat) : weight init s = 3 := by simp [weight, init]

theorem totalW_init (n : Nat) : totalW n init = 3 * n := by
  have : ∀ l : List Nat, (l.map (weight init)).sum = 3 * l.length := by
    intro l
    induction l with
    | nil => rfl
    | cons a l ih =>
      simp only [List.map_cons, List.sum_cons, List.length_cons, ih, weight_init]; omega
  rw [totalW, this, List.length_range]

/-! ### draining what is in flight -/

/-- what draining the stages of `L` does to a stage `s`: nothing, unless `s ∈ L` and its goroutine
was still at work, which is then over -/
structure Drained (L : List Nat) (s : Nat) (σ σ' : St) : Prop where
  unmoved : σ.g s ≠ .inRun → σ.g s ≠ .afterErr → σ'.g s = σ.g s ∧ σ'.status s = σ.status s
  other  : s ∉ L → σ'.g s = σ.g s ∧ σ'.status s = σ.status s
  fin    : s ∈ L → σ.g s = .inRun ∨ σ.g s = .afterErr → σ'.g s = .fin
  status : σ'.status s = σ.status s ∨ σ'.status s = .done ∨ σ'.status s = .error

/-- the two goroutine steps of stage `t`, in closed form: a goroutine inside `Run` or between its two
writes ends (`fin`), everything else stays -/
theorem run_finishActs (c : Cfg) (okf : Nat → Bool) (σ : St) (t : Nat) :
    run c σ (finishActs okf t) =
      match σ.g t with
      | .inRun =>
        if okf t || c.allow t then { σ with status := upd σ.status t .done, g := upd σ.g t .fin }
        else { σ with status := upd σ.status t .error, g := upd σ.g t .fin, gerr := true }
      | .afterErr =>
        if c.allow t then { σ with status := upd σ.status t .done, g := upd σ.g t .fin }
        else { σ with g := upd σ.g t .fin, gerr := true }
      | _ => σ := by
  simp only [finishActs, run, List.foldl_cons, List.foldl_nil]
  cases hg : σ.g t <;> cases ho : okf t <;> cases ha : c.allow t <;> simp [step, hg, ho, ha]

theorem finish_stage (c : Cfg) (okf : Nat → Bool) (σ : St) (t s : Nat) :
    Drained [t] s σ (run c σ (finishActs okf t)) := by
  rw [run_finishActs]
  by_cases hst : s = t
  · subst hst
    cases hg : σ.g s <;> simp only [] <;> (try split) <;> constructor <;> simp [hg]
  · split <;> (try split) <;> constructor <;> simp [upd_apply, hst]

/-- the drain leaves nothing in flight -/
theorem Drained.quiet {L s σ σ'} (h : Drained L s σ σ') (hs : s ∈ L) : σ'.g s ≠ .inRun := fun hg => by
  by_cases h' : σ.g s = .inRun ∨ σ.g s = .afterErr
  · rw [h.fin hs h'] at hg; cases hg
  · rw [(h.unmoved (fun e => h' (.inl e)) (fun e => h' (.inr e))).1] at hg; exact h' (.inl hg)

theorem drain_stage (c : Cfg) (okf : Nat → Bool) (L : List Nat) (s : Nat) : ∀ σ,
    Drained L s σ (run c σ (L.flatMap (finishActs okf))) := by
  induction L with
  | nil => intro σ; exact ⟨fun _ _ => ⟨rfl, rfl⟩, fun _ => ⟨rfl, rfl⟩, (fun h => nomatch h), .inl rfl⟩
  | cons t rest ih =>
    intro σ
    rw [List.flatMap_cons, run_append]
    obtain ⟨a2, a3, a4, a5⟩ := finish_stage c okf σ t s
    obtain ⟨b2, b3, b4, b5⟩ := ih (run c σ (finishActs okf t))
    simp only [List.mem_cons, List.not_mem_nil, or_false] at a3 a4 ⊢
    constructor <;> grind

/-- goroutine actions leave the loop where it is -/
theorem run_pc {c : Cfg} (as : List Act) (σ : St) (h : ∀ a ∈ as, a.isLoop = false) :
    (run c σ as).pc = σ.pc :=
  List.foldlRecOn (motive := fun τ => τ.pc = σ.pc) as (step c) rfl
    fun τ hτ a ha => (step_pc a (h a ha)).trans hτ

theorem drain_pc (c : Cfg) (okf : Nat → Bool) (n : Nat) (σ : St) :
    (run c σ (drainActs okf n)).pc = σ.pc :=
  run_pc _ σ fun a ha => by
    simp only [drainActs, List.mem_flatMap, finishActs, List.mem_cons, List.not_mem_nil, or_false] at ha
    obtain ⟨s, _, rfl | rfl⟩ := ha <;> rfl

/-! ### one pass -/

/-- a pass decides every stage of its order whose dependencies are all decided -/
theorem pass_decides (c : Cfg) (order : List Nat) (σ : St) (hidle : σ.pc = .idle) (s : Nat)
    (hs : s ∈ order) (hdeps : ∀ d ∈ c.deps s, Decided σ d) : (pass c σ order).status s ≠ .waiting :=
  pass_examines (Q := fun τ => τ.status s ≠ .waiting) (R := fun τ => ∀ d ∈ c.deps s, Decided τ d)
    (fun τ t hτ h => by rwa [(visitFull_frame c τ t hτ s (.inr h)).1])
    (fun τ t hτ _ h d hd => by
      unfold Decided; rw [(visitFull_frame c τ t hτ d (.inr (h d hd).1)).1]; exact h d hd)
    (fun τ hτ h => by
      by_cases hw : τ.status s = .waiting
      · exact visitFull_decides c τ s hτ hw h
      · rwa [(visitFull_frame c τ s hτ s (.inr hw)).1])
    order σ hidle hs hdeps

/-! ### one round -/

theorem round_eq_run (c : Cfg) (okf : Nat → Bool) (n : Nat) (σ : St) :
    round c okf n σ = run c σ (drainActs okf n ++ (List.range n).flatMap (visitActs c)) := by
  rw [round, pass_eq_run, run_append]

theorem round_inv (c : Cfg) (okf : Nat → Bool) (n : Nat) (σ : St) (hi : Inv c σ) :
    Inv c (round c okf n σ) := by
  rw [round_eq_run]; exact inv_run_from c _ σ hi

theorem round_idle (c : Cfg) (okf : Nat → Bool) (n : Nat) (σ : St) (hidle : σ.pc = .idle) :
    (round c okf n σ).pc = .idle :=
  pass_idle c _ _ ((drain_pc c okf n σ).trans hidle)

theorem round_weight_le (c : Cfg) (okf : Nat → Bool) (n : Nat) (σ : St) (hi : Inv c σ) (s : Nat) :
    weight (round c okf n σ) s ≤ weight σ s := by
  rw [round_eq_run]; exact weight_run_le c _ σ hi s

theorem not_done_witness (n : Nat) (σ : St) (h : isDone n σ = false) :
    ∃ s, s < n ∧ (σ.status s = .waiting ∨ σ.status s = .running) :=
  Classical.byContradiction fun hn => by
    rw [isDone_iff.mpr fun s hs => ⟨fun hw => hn ⟨s, hs, .inl hw⟩, fun hr => hn ⟨s, hs, .inr hr⟩⟩] at h
    cases h

theorem exists_min_rank (n : Nat) (rank : Nat → Nat) (W : Nat → Prop) :
    ∀ r, (∃ s, s < n ∧ W s ∧ rank s ≤ r) →
      ∃ s, s < n ∧ W s ∧ ∀ t, t < n → W t → rank s ≤ rank t := by
  intro r
  induction r with
  | zero =>
    rintro ⟨s, hs, hw, hr⟩
    exact ⟨s, hs, hw, fun t _ _ => by omega⟩
  | succ r ih =>
    rintro ⟨s, hs, hw, hr⟩
    by_cases h : ∃ s, s < n ∧ W s ∧ rank s ≤ r
    · exact ih h
    · refine ⟨s, hs, hw, fun t ht hwt => ?_⟩
      have : ¬ rank t ≤ r := fun hle => h ⟨t, ht, hwt, hle⟩
      omega

/-- with nothing in flight, a pass decides a waiting stage of least rank -/
theorem pass_progress (c : Cfg) (rank : Nat → Nat) (hac : Acyclic c rank) (n : Nat)
    (hclosed : ∀ s, s < n → ∀ d ∈ c.deps s, d < n) (σ : St) (hi : Inv c σ) (hidle : σ.pc = .idle)
    (hquiet : ∀ s, s < n → σ.g s ≠ .inRun) (hwait : ∃ s, s < n ∧ σ.status s = .waiting) :
    ∃ s, s < n ∧ σ.status s = .waiting ∧ (pass c σ (List.range n)).status s ≠ .waiting := by
  obtain ⟨s0, hs0, hw0⟩ := hwait
  obtain ⟨s, hs, hw, hmin⟩ := exists_min_rank n rank (fun s => σ.status s = .waiting) (rank s0)
    ⟨s0, hs0, hw0, Nat.le_refl _⟩
  refine ⟨s, hs, hw, pass_decides c _ σ hidle s (List.mem_range.mpr hs) fun d hd => ⟨?_, ?_⟩⟩
  · intro hwd
    have := hmin d (hclosed s hs d hd) hwd
    have := hac s d hd
    omega
  · exact fun hrd => hquiet d (hclosed s hs d hd) (hi.run_g d hrd)

/-- unless the run is over, a round strictly decreases the weight of some stage: a running stage
finishes in the drain; otherwise a waiting stage of least rank is decided by the pass -/
theorem round_progress (c : Cfg) (rank : Nat → Nat) (hac : Acyclic c rank) (n : Nat)
    (hclosed : ∀ s, s < n → ∀ d ∈ c.deps s, d < n) (okf : Nat → Bool) (σ : St) (hi : Inv c σ)
    (hidle : σ.pc = .idle) (hnd : isDone n σ = false) :
    ∃ s, s < n ∧ weight (round c okf n σ) s < weight σ s := by
  have hi' := inv_run_from c (drainActs okf n) σ hi
  have hdr : ∀ s, Drained (List.range n) s σ (run c σ (drainActs okf n)) :=
    fun s => drain_stage c okf (List.range n) s σ
  obtain ⟨s0, hs0, hw0 | hr0⟩ := not_done_witness n σ hnd
  · -- a waiting stage has no goroutine, so it still waits after the drain, in which nothing is in flight
    have hg0 := (hi.coh s0).none (.inl hw0)
    obtain ⟨s, hs, hw, hdec⟩ := pass_progress c rank hac n hclosed _ hi' ((drain_pc c okf n σ).trans hidle)
      (fun s hs => (hdr s).quiet (List.mem_range.mpr hs))
      ⟨s0, hs0, by rw [((hdr s0).unmoved (by simp [hg0]) (by simp [hg0])).2]; exact hw0⟩
    -- the stage the pass decides weighs 3 after the drain and less after the pass
    exact ⟨s, hs, Nat.lt_of_lt_of_le (weight_waiting hi' hw ▸ weight_lt_of_not_waiting hdec)
      (weight_run_le c (drainActs okf n) σ hi s)⟩
  · -- a running stage weighs 2 and its goroutine is over after the drain
    refine ⟨s0, hs0, Nat.lt_of_le_of_lt (by rw [round, pass_eq_run]; exact weight_run_le c _ _ hi' s0) ?_⟩
    have hg := hi.run_g s0 hr0
    have := (hdr s0).fin (List.mem_range.mpr hs0) (.inl hg)
    simp [weight, hg, this]

theorem round_totalW_lt (c : Cfg) (rank : Nat → Nat) (hac : Acyclic c rank) (n : Nat)
    (hclosed : ∀ s, s < n → ∀ d ∈ c.deps s, d < n) (okf : Nat → Bool) (σ : St) (hi : Inv c σ)
    (hidle : σ.pc = .idle) (hnd : isDone n σ = false) :
    totalW n (round c okf n σ) < totalW n σ := by
  obtain ⟨s, hs, hlt⟩ := round_progress c rank hac n hclosed okf σ hi hidle hnd
  exact sum_map_lt (fun x _ => round_weight_le c okf n σ hi x) ⟨s, List.mem_range.mpr hs, hlt⟩

/-! ### the end of a fair run -/

/-- only `cancel` and a condition that cannot be evaluated set the cancelled flag -/
def Act.isCancel : Act → Bool
  | .cancel => true
  | _ => false

theorem cancelled_step (c : Cfg) (σ : St) (a : Act) (hne : ∀ s, c.cond s ≠ .err)
    (ha : a.isCancel = false) : (step c σ a).cancelled = σ.cancelled := by
  cases a with
  | cancel => cases ha
  | visit s =>
    have := hne s
    simp only [step]
    repeat' split
    all_goals simp_all
  | _ =>
    simp only [step]
    repeat' split
    all_goals rfl

theorem cancelled_run (c : Cfg) (hne : ∀ s, c.cond s ≠ .err) (as : List Act) (σ : St)
    (h : ∀ a ∈ as, a.isCancel = false) : (run c σ as).cancelled = σ.cancelled :=
  List.foldlRecOn (motive := fun τ => τ.cancelled = σ.cancelled) as (step c) rfl
    fun τ hτ a ha => (cancelled_step c τ a hne (h a ha)).trans hτ

theorem drainActs_props (okf : Nat → Bool) (n : Nat) :
    ∀ a ∈ drainActs okf n, Respects okf a ∧ a.isCancel = false := by
  intro a ha
  simp only [drainActs, List.mem_flatMap, finishActs, List.mem_cons, List.not_mem_nil, or_false] at ha
  obtain ⟨s, _, rfl | rfl⟩ := ha <;> simp [Respects, Act.isCancel]

theorem visitActs_props (c : Cfg) (okf : Nat → Bool) (L : List Nat) :
    ∀ a ∈ L.flatMap (visitActs c), Respects okf a ∧ a.isCancel = false := by
  intro a ha
  have := passActs_loop c L a ha
  cases a <;> simp_all [Respects, Act.isCancel, Act.isLoop]

/-- the fair driver is a particular interleaving: its result is `run` of an action list that respects
the outcomes and contains no external cancel -/
theorem rounds_is_run (c : Cfg) (okf : Nat → Bool) (n : Nat) : ∀ k σ, ∃ as,
    rounds c okf n k σ = run c σ as ∧ ∀ a ∈ as, Respects okf a ∧ a.isCancel = false := by
  intro k
  induction k with
  | zero => intro σ; exact ⟨[], rfl, fun a h => (nomatch h)⟩
  | succ k ih =>
    intro σ
    simp only [rounds]
    split
    · exact ⟨[], rfl, fun a h => (nomatch h)⟩
    · obtain ⟨as, h, hp⟩ := ih (round c okf n σ)
      refine ⟨(drainActs okf n ++ (List.range n).flatMap (visitActs c)) ++ as, ?_, ?_⟩
      · rw [h, run_append, round_eq_run]
      · intro a ha
        rcases List.mem_append.mp ha with ha | ha
        · rcases List.mem_append.mp ha with ha | ha
          · exact drainActs_props okf n a ha
          · exact visitActs_props c okf _ a ha
        · exact hp a ha

end Sched
