import TaskctlVerif.Model.CockpitLocks
/-!
Who holds which lock is determined by where the threads are (`Inv`), in every reachable state.
-/
namespace CockpitLocks

structure Inv (σ : St) : Prop where
  sR : σ.s = some .redraw ↔ σ.r ≠ .idle
  sC : σ.s = some .closer ↔ σ.closer = .inS
  sA : σ.s = some .adder ↔ σ.adder = .inS
  sF : ∀ i, σ.s ≠ some (.fin i)
  bR : σ.b = some .redraw ↔ σ.r = .drain
  bC : σ.b = some .closer ↔ σ.closer = .inB
  bA : σ.b = some .adder ↔ σ.adder = .inB
  bF : ∀ i, σ.b = some (.fin i) ↔ σ.fin i = .inB

/-- thread `o` stands where it holds `S` -/
def holdsS (σ : St) : Owner → Prop
  | .redraw => σ.r ≠ .idle
  | .closer => σ.closer = .inS
  | .adder => σ.adder = .inS
  | .fin _ => False

/-- thread `o` stands where it holds `B` -/
def holdsB (σ : St) : Owner → Prop
  | .redraw => σ.r = .drain
  | .closer => σ.closer = .inB
  | .adder => σ.adder = .inB
  | .fin i => σ.fin i = .inB

/-- `Inv`, with the thread as a variable -/
theorem inv_iff (σ : St) :
    Inv σ ↔ (∀ o, σ.s = some o ↔ holdsS σ o) ∧ (∀ o, σ.b = some o ↔ holdsB σ o) :=
  ⟨fun ⟨sR, sC, sA, sF, bR, bC, bA, bF⟩ =>
    ⟨fun | .redraw => sR | .closer => sC | .adder => sA | .fin i => ⟨(sF i).elim, False.elim⟩,
     fun | .redraw => bR | .closer => bC | .adder => bA | .fin i => bF i⟩,
   fun ⟨hs, hb⟩ => ⟨hs _, hs _, hs _, fun i => (hs (.fin i)).mp, hb _, hb _, hb _, fun i => hb (.fin i)⟩⟩

theorem inv_init : Inv init := by
  constructor <;> simp [init]

/-- What a step of thread `o` does to one lock: `x`, `x'` the lock before and after, `H`, `H'` who holds it by position
before and after.  Nobody else moves; `o` takes the lock when it is free, gives it back, or leaves it alone. -/
structure Moves (o : Owner) (x x' : Option Owner) (H H' : Owner → Prop) : Prop where
  others : ∀ p, p ≠ o → (H' p ↔ H p)
  lock :
    x = none ∧ x' = some o ∧ H' o ∨   -- takes it
    H o ∧ x' = none ∧ ¬H' o ∨         -- gives it back
    x' = x ∧ (H' o ↔ H o)             -- leaves it alone

/-- such a step keeps lock and positions in agreement -/
theorem Moves.inv {o x x' H H'} (m : Moves o x x' H H') (h : ∀ p, x = some p ↔ H p) (p : Owner) :
    x' = some p ↔ H' p := by
  by_cases hp : p = o
  · subst hp; rcases m.lock with ⟨_, rfl, h'⟩ | ⟨_, rfl, h'⟩ | ⟨rfl, h'⟩ <;> simp [h', h p]
  · rw [m.others p hp, ← h p]
    rcases m.lock with ⟨rfl, rfl, _⟩ | ⟨hH, rfl, _⟩ | ⟨rfl, _⟩
    · simp [Ne.symm hp]
    · simp [(h o).mpr hH, Ne.symm hp]
    · rfl

/-- Every step of the model is such a step, for either lock: a step writes nothing but the locks and the position of
its own thread (for a task, `upd` at its own index). -/
theorem next_moves {σ σ' : St} {o : Owner} (hn : next σ o = some σ') :
    Moves o σ.s σ'.s (holdsS σ) (holdsS σ') ∧ Moves o σ.b σ'.b (holdsB σ) (holdsB σ') := by
  -- For another thread `p` (`others`), three cases: `p` reads a field the step did not write (`.rfl`); `p` has the
  -- mover's constructor and is not a task, so `p = o` (`absurd rfl hp`); both are tasks `fin j`, `fin i` with
  -- `j ≠ i`, and `upd` at another index is untouched (`simp_all`; for `B` only, a task never holds `S`).
  cases o <;> simp only [next] at hn <;> split at hn <;> (try split at hn) <;> cases hn <;>
    refine ⟨⟨fun p hp => by cases p <;> first | exact .rfl | exact absurd rfl hp, ?_⟩,
            ⟨fun p hp => by cases p <;> first | exact .rfl | exact absurd rfl hp | simp_all [holdsB, upd], ?_⟩⟩ <;>
    simp [holdsS, holdsB, upd, *]

theorem inv_step (σ : St) (o : Owner) (h : Inv σ) : Inv (step σ o) := by
  unfold step
  cases hn : next σ o with
  | none => exact h
  | some σ' =>
    have ⟨hs, hb⟩ := (inv_iff σ).mp h
    have ⟨ms, mb⟩ := next_moves hn
    exact (inv_iff σ').mpr ⟨ms.inv hs, mb.inv hb⟩

theorem inv_run (os : List Owner) : ∀ σ, Inv σ → Inv (run σ os) :=
  fun _ h => List.foldlRecOn os step h fun σ h o _ => inv_step σ o h

end CockpitLocks
