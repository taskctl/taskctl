import TaskctlVerif.Model.GlobalCfg
/-!
# What the two merges of `Model/GlobalCfg.lean` contain (used by C17)
-/
namespace GlobalCfg
variable {α : Type} {dst src : Sect α} {kv : String × α}

theorem mem_mergeKeep : kv ∈ mergeKeep dst src ↔ kv ∈ dst ∨ kv ∈ src ∧ kv.1 ∉ keys dst := by
  simp [mergeKeep]

theorem mem_mergeOver : kv ∈ mergeOver dst src ↔ kv ∈ dst ∧ kv.1 ∉ keys src ∨ kv ∈ src := by
  simp [mergeOver]

theorem keys_append (s t : Sect α) : keys (s ++ t) = keys s ++ keys t := List.map_append

/-- the names left of `s` once the definitions whose name `t` has are dropped -/
theorem mem_keys_filter (s t : Sect α) (k : String) :
    k ∈ keys (s.filter fun kv => !(keys t).contains kv.1) ↔ k ∈ keys s ∧ k ∉ keys t := by
  simp only [keys, List.mem_map, List.mem_filter, Bool.not_eq_true', List.contains_eq_mem,
    decide_eq_false_iff_not]
  exact ⟨fun ⟨kv, ⟨h1, h2⟩, e⟩ => e ▸ ⟨⟨kv, h1, rfl⟩, h2⟩, fun ⟨⟨kv, h1, e⟩, h2⟩ => ⟨kv, ⟨h1, e ▸ h2⟩, e⟩⟩

theorem mem_keys_mergeKeep (dst src : Sect α) (k : String) :
    k ∈ keys (mergeKeep dst src) ↔ k ∈ keys dst ∨ k ∈ keys src := by
  rw [mergeKeep, keys_append, List.mem_append, mem_keys_filter, or_and_left,
    and_iff_left (Decidable.em _)]

theorem mem_keys_mergeOver (dst src : Sect α) (k : String) :
    k ∈ keys (mergeOver dst src) ↔ k ∈ keys dst ∨ k ∈ keys src := by
  rw [mergeOver, keys_append, List.mem_append, mem_keys_filter, and_or_right,
    and_iff_left (Decidable.em _).symm]

theorem mergeKeep_nil (s : Sect α) : mergeKeep [] s = s := by simp [mergeKeep, keys]

theorem mergeOver_nil (s : Sect α) : mergeOver [] s = s := rfl

/-- the global configuration is merged into an empty one: it is taken as it is -/
theorem merge_empty (g : Cfg α) : merge empty g = g := by
  simp only [merge, empty, mergeKeep_nil, mergeOver_nil]

end GlobalCfg
