import TaskctlVerif.Model.Derived
import TaskctlVerif.Proofs.Layers
/-!
Lemmas about `Model/Derived.lean`: rendering depends on what the references resolve to only; while the in-place loop
runs over a flat map, every step behaves as if it rendered the original value against the original map.
-/
namespace Derived
open Layers

theorem render_plain (m : Env Tmpl) (t : Tmpl) (h : plain t = true) : render m t = some (text t) := by
  induction t with
  | nil => rfl
  | cons seg r ih =>
    cases seg with
    | lit s => simp [render, text, ih h]
    | ref k d => cases h

theorem render_congr (m m' : Env Tmpl) (t : Tmpl) (h : ∀ k ∈ refs t, ∀ d, resolve m k d = resolve m' k d) :
    render m t = render m' t := by
  induction t with
  | nil => rfl
  | cons seg r ih =>
    cases seg with
    | lit s => simp [render, ih h]
    | ref k d =>
      simp only [refs, List.forall_mem_cons] at h
      simp [render, h.1, ih h.2]

theorem resolve_lit (m : Env Tmpl) (k s : String) (d : Option String) (h : get m k = some [.lit s]) :
    resolve m k d = some s := by
  simp [resolve, h, plain, text]

/-- the value the loop leaves for `k`: its original value, rendered against the original map -/
def rendered (m0 : Env Tmpl) (k : String) : Option Tmpl :=
  match get m0 k with
  | none => none
  | some t => (render m0 t).map fun s => [.lit s]

/-- every entry is still the original one, or the original one rendered against the original map -/
def Inv (m0 m : Env Tmpl) : Prop :=
  ∀ k, get m k = get m0 k ∨ ∃ t s, get m0 k = some t ∧ render m0 t = some s ∧ get m k = some [.lit s]

theorem inv_refl (m0 : Env Tmpl) : Inv m0 m0 := fun _ => .inl rfl

variable {m0 m : Env Tmpl}

/-- a name whose original value is plain (or absent) resolves as it did at the start: rendering a plain value
yields its text -/
theorem inv_resolve (hi : Inv m0 m) {k : String} (hs : ∀ t, get m0 k = some t → plain t = true)
    (d : Option String) : resolve m k d = resolve m0 k d := by
  rcases hi k with h | ⟨t, s, h0, hr, hm⟩
  · simp [resolve, h]
  · cases (render_plain m0 t (hs t h0)).symm.trans hr
    rw [resolve_lit m k _ d hm]
    simp [resolve, h0, hs t h0]

/-- under the invariant the in-place step is the step that renders the ORIGINAL value against the ORIGINAL map:
the references of an original value still resolve as at the start (`Flat`), and a value already rendered renders
to itself -/
theorem inv_step_eq (hf : Flat m0) (hi : Inv m0 m) (k : String) :
    step m k = match get m0 k with
      | none => some m
      | some t => (render m0 t).map fun s => withKey m k [.lit s] := by
  unfold step
  rcases hi k with h | ⟨t, s, h0, hr, hm⟩
  · rw [h]
    cases h0 : get m0 k with
    | none => rfl
    | some t => dsimp only; rw [render_congr m m0 t fun k' hk => inv_resolve hi (hf k t h0 k' hk)]
  · simp [hm, h0, hr, render]

theorem inv_step_none_iff (hf : Flat m0) (hi : Inv m0 m) (k : String) :
    step m k = none ↔ ∃ t, get m0 k = some t ∧ render m0 t = none := by
  rw [inv_step_eq hf hi]
  cases get m0 k <;> simp

theorem inv_step_some (hf : Flat m0) (hi : Inv m0 m) {k : String} {m1 : Env Tmpl} (hs : step m k = some m1) :
    Inv m0 m1 ∧ ∀ k', get m1 k' = if k' = k then rendered m0 k else get m k' := by
  rw [inv_step_eq hf hi] at hs
  split at hs
  next h0 =>
    cases hs
    have hk : get m k = none := by
      rcases hi k with h | ⟨_, _, h, _⟩
      · exact h.trans h0
      · cases h0.symm.trans h
    refine ⟨hi, fun k' => ?_⟩
    split
    · simp [*, rendered]
    · rfl
  next t h0 =>
    obtain ⟨s, hr, rfl⟩ := Option.map_eq_some_iff.mp hs
    have hk : rendered m0 k = some [.lit s] := by simp [rendered, h0, hr]
    have hg k' : get (withKey m k [.lit s]) k' = if k' = k then rendered m0 k else get m k' := by
      rw [get_withKey, hk]; split <;> rfl
    refine ⟨fun k' => ?_, hg⟩
    by_cases hk' : k' = k
    · exact .inr ⟨t, s, hk' ▸ h0, hr, by rw [hg, if_pos hk', hk]⟩
    · rw [hg, if_neg hk']; exact hi k'

theorem loop_spec (hf : Flat m0) (ks : List String) {m m' : Env Tmpl} (hi : Inv m0 m)
    (h : loop m ks = some m') : Inv m0 m' ∧ ∀ k, get m' k = if k ∈ ks then rendered m0 k else get m k := by
  induction ks generalizing m with
  | nil => cases h; exact ⟨hi, fun k => by simp⟩
  | cons k0 ks ih =>
    simp only [loop] at h
    split at h
    next m1 hs =>
      obtain ⟨hi1, hg⟩ := inv_step_some hf hi hs
      obtain ⟨hi', hall⟩ := ih hi1 h
      refine ⟨hi', fun k => ?_⟩
      rw [hall, hg]
      by_cases hin : k ∈ ks <;> by_cases hk : k = k0 <;> simp [hin, hk]
    next => cases h

/-- whether a step fails does not depend on the steps before it -/
theorem loop_none_iff (hf : Flat m0) (ks : List String) (hi : Inv m0 m) :
    loop m ks = none ↔ ∃ k ∈ ks, ∃ t, get m0 k = some t ∧ render m0 t = none := by
  induction ks generalizing m with
  | nil => simp [loop]
  | cons k0 ks ih =>
    simp only [List.mem_cons, exists_eq_or_imp, ← inv_step_none_iff hf hi k0, loop]
    split
    next m1 hs => simp [hs, ih (inv_step_some hf hi hs).1]
    next hs => simp [hs]

theorem flatB_flat (m : Env Tmpl) (h : flatB m = true) : Flat m := by
  intro k t hg k' hk t' ht'
  obtain ⟨l₁, l₂, hm, -⟩ := List.lookup_eq_some_iff.mp hg
  simp only [flatB, List.all_eq_true] at h
  simpa [ht'] using h (k, t) (by simp [hm]) k' hk

end Derived
