import TaskctlVerif.Model.Imports
import TaskctlVerif.Proofs.Graph
/-!
# Proofs about the import loader model (C17): visited-set recursion = import closure, each once

Every loop of the model is "load this, then the rest from the visited set that leaves, and
concatenate what contributed" (`Res.andThen`); what a load guarantees (`Spec`) composes along it.
-/
namespace Imports

/-- `b` is imported by `a`, and `a` could be read -/
def Edge (fs : FS) (a b : Nat) : Prop := fs.status a = .ok ∧ b ∈ fs.imports a

inductive Reach (fs : FS) : Nat → Nat → Prop
  | refl (a) : Reach fs a a
  | step {a b c} : Edge fs a b → Reach fs b c → Reach fs a c

theorem Reach.trans {fs : FS} {a b c} (h1 : Reach fs a b) (h2 : Reach fs b c) : Reach fs a c := by
  induction h1 with
  | refl => exact h2
  | step e _ ih => exact .step e (ih h2)

theorem Reach.tail {fs : FS} {a b c} (h1 : Reach fs a b) (e : Edge fs b c) : Reach fs a c :=
  h1.trans (.step e (.refl _))

/-- a set that is closed under imports holds whatever one of its files reaches -/
theorem Reach.closed {fs : FS} {R : Nat → Prop} (hR : ∀ a b, R a → Edge fs a b → R b) {a x}
    (ha : R a) (h : Reach fs a x) : R x := by
  induction h with
  | refl => exact ha
  | step e _ ih => exact ih (hR _ _ ha e)

/-! ## The loops of the model, written with one sequencing operation -/

/-- `r`, then `k` from the visited set `r` leaves; the contributions are concatenated and the first
failure is the result -/
def Res.andThen (r : Res) (k : List Nat → Res) : Res :=
  match r with
  | .ok vis c =>
    match k vis with
    | .ok vis' c' => .ok vis' (c ++ c')
    | r' => r'
  | r => r

theorem Res.ok_andThen (vis c : List Nat) (k : List Nat → Res) :
    (Res.ok vis c).andThen k = match k vis with
      | .ok vis' c' => .ok vis' (c ++ c')
      | r' => r' := rfl

theorem Res.ok_nil_andThen (vis : List Nat) (k : List Nat → Res) : (Res.ok vis []).andThen k = k vis := by
  rw [Res.ok_andThen]
  cases k vis <;> rfl

theorem Res.andThen_assoc (r : Res) (k k' : List Nat → Res) :
    (r.andThen k).andThen k' = r.andThen fun vis => (k vis).andThen k' := by
  cases r with
  | ok vis c =>
    cases h : k vis with
    | ok vis' c' => cases h' : k' vis' <;> simp [Res.andThen, h, h']
    | _ => simp [Res.andThen, h]
  | _ => rfl

theorem Res.andThen_ne_outOfFuel {r : Res} {k : List Nat → Res} (hr : r ≠ .outOfFuel)
    (hk : ∀ vis c, r = .ok vis c → k vis ≠ .outOfFuel) : r.andThen k ≠ .outOfFuel := by
  cases r with
  | ok vis c =>
    have := hk vis c rfl
    rw [Res.ok_andThen]
    split
    · nofun
    · assumption
  | _ => exact hr

theorem loadList_cons (ld : List Nat → Nat → Res) (vis : List Nat) (v : Nat) (rest : List Nat) :
    loadList ld vis (v :: rest) =
      if v ∈ vis then loadList ld vis rest else (ld vis v).andThen (loadList ld · rest) := rfl

/-- a file is marked as visited before it is read; its imports are loaded from there -/
theorem load_succ (fs : FS) (fuel : Nat) (vis : List Nat) (f : Nat) :
    load fs (fuel + 1) vis f = match fs.status f with
      | .ok => (Res.ok (f :: vis) [f]).andThen (loadList (load fs fuel) · (fs.imports f))
      | _ => .err := rfl

/-! ## What a load guarantees -/

/-- what a successful (sub-)load guarantees -/
structure OkSpec (fs : FS) (vis vis' c : List Nat) : Prop where
  visited : ∀ x, x ∈ vis' ↔ x ∈ vis ∨ x ∈ c
  fresh   : ∀ x ∈ c, x ∉ vis
  nodup   : c.Nodup
  closed  : ∀ x ∈ c, fs.status x = .ok ∧ ∀ y ∈ fs.imports x, y ∈ vis'

variable {fs : FS} {vis vis1 vis2 c1 c2 : List Nat}

theorem OkSpec.subset (h : OkSpec fs vis vis1 c1) {x : Nat} (hx : x ∈ vis) : x ∈ vis1 :=
  (h.visited x).mpr (.inl hx)

theorem OkSpec.nil : OkSpec fs vis vis [] := ⟨by simp, nofun, .nil, nofun⟩

theorem OkSpec.append (h1 : OkSpec fs vis vis1 c1) (h2 : OkSpec fs vis1 vis2 c2) :
    OkSpec fs vis vis2 (c1 ++ c2) where
  visited x := by rw [h2.visited, h1.visited, List.mem_append, or_assoc]
  fresh x hx := (List.mem_append.mp hx).elim (h1.fresh x) fun h hv => h2.fresh x h (h1.subset hv)
  nodup := List.nodup_append.mpr ⟨h1.nodup, h2.nodup, fun a ha b hb hab =>
    h2.fresh b hb ((h1.visited b).mpr (.inr (hab ▸ ha)))⟩
  closed x hx := (List.mem_append.mp hx).elim
    (fun h => ⟨(h1.closed x h).1, fun y hy => h2.subset ((h1.closed x h).2 y hy)⟩) (h2.closed x)

/-- the file itself joins what loading its imports contributed -/
theorem OkSpec.cons {f : Nat} (h : OkSpec fs (f :: vis) vis1 c1) (hf : f ∉ vis)
    (hst : fs.status f = .ok) (himp : ∀ y ∈ fs.imports f, y ∈ vis1) : OkSpec fs vis vis1 (f :: c1) where
  visited x := by rw [h.visited, List.mem_cons, List.mem_cons, or_left_comm, or_assoc]
  fresh x hx := (List.mem_cons.mp hx).elim (· ▸ hf) fun hc hv => h.fresh x hc (List.mem_cons_of_mem _ hv)
  nodup := List.nodup_cons.mpr ⟨fun hc => h.fresh f hc List.mem_cons_self, h.nodup⟩
  closed x hx := (List.mem_cons.mp hx).elim (· ▸ ⟨hst, himp⟩) (h.closed x)

/-- what loading the files `vs` from the visited set `vis` guarantees of its result, `R` being a set
of files that holds them and is closed under imports: on success every one of them is visited and
whatever contributed is in `R`; it fails only on a file in `R`.  It says nothing of a load that ran
out of fuel: that this does not happen is shown separately (`load_fuel`). -/
def Spec (fs : FS) (R : Nat → Prop) (vis vs : List Nat) : Res → Prop
  | .ok vis' c => OkSpec fs vis vis' c ∧ (∀ v ∈ vs, v ∈ vis') ∧ ∀ x ∈ c, R x
  | .err => ∃ x, R x ∧ fs.status x ≠ .ok
  | .outOfFuel => True

variable {R : Nat → Prop}

/-- a file that is visited already adds nothing -/
theorem Spec.skip {vs : List Nat} {r : Res} {v : Nat} (hv : v ∈ vis) (h : Spec fs R vis vs r) :
    Spec fs R vis (v :: vs) r := by
  cases r with
  | ok vis' c => exact ⟨h.1, List.forall_mem_cons.mpr ⟨h.1.subset hv, h.2.1⟩, h.2.2⟩
  | _ => exact h

theorem Spec.andThen {xs ys : List Nat} {r : Res} {k : List Nat → Res} (hr : Spec fs R vis xs r)
    (hk : ∀ vis1, Spec fs R vis1 ys (k vis1)) : Spec fs R vis (xs ++ ys) (r.andThen k) := by
  cases r with
  | ok vis1 c1 =>
    obtain ⟨hs1, hall1, hreach1⟩ := hr
    have h2 := hk vis1
    rw [Res.ok_andThen]
    generalize k vis1 = r2 at h2 ⊢
    cases r2 with
    | ok vis2 c2 =>
      obtain ⟨hs2, hall2, hreach2⟩ := h2
      exact ⟨hs1.append hs2,
        fun w hw => (List.mem_append.mp hw).elim (fun h => hs2.subset (hall1 w h)) (hall2 w),
        fun x hx => (List.mem_append.mp hx).elim (hreach1 x) (hreach2 x)⟩
    | _ => exact h2
  | _ => exact hr

theorem loadList_spec {ld : List Nat → Nat → Res}
    (hld : ∀ vis v, R v → v ∉ vis → Spec fs R vis [v] (ld vis v)) (vs : List Nat) (hvs : ∀ v ∈ vs, R v) :
    ∀ vis, Spec fs R vis vs (loadList ld vis vs) := by
  induction vs with
  | nil => exact fun _ => ⟨.nil, nofun, nofun⟩
  | cons v rest ih =>
    intro vis
    obtain ⟨hv, hrest⟩ := List.forall_mem_cons.mp hvs
    rw [loadList_cons]
    split
    · exact (ih hrest vis).skip ‹_›
    · exact (hld vis v hv ‹_›).andThen (ih hrest)

theorem load_spec (hR : ∀ a b, R a → Edge fs a b → R b) (fuel : Nat) :
    ∀ vis f, R f → f ∉ vis → Spec fs R vis [f] (load fs fuel vis f) := by
  induction fuel with
  | zero => exact fun _ _ _ _ => trivial
  | succ fuel ih =>
    intro vis f hRf hf
    rw [load_succ]
    cases hst : fs.status f with
    | ok =>
      have hl := loadList_spec ih (fs.imports f) (fun y hy => hR f y hRf ⟨hst, hy⟩) (f :: vis)
      -- not by `Spec.andThen`: `.ok (f :: vis) [f]` alone does not meet `OkSpec.closed`, the imports
      -- of `f` being visited only afterwards; `OkSpec.cons` adds `f` to the finished sub-load instead
      dsimp only
      rw [Res.ok_andThen]
      generalize loadList (load fs fuel) (f :: vis) (fs.imports f) = r at hl ⊢
      cases r with
      | ok vis1 c =>
        obtain ⟨hs, hall, hreach⟩ := hl
        exact ⟨hs.cons hf hst hall, List.forall_mem_singleton.mpr (hs.subset List.mem_cons_self),
          List.forall_mem_cons.mpr ⟨hRf, hreach⟩⟩
      | _ => exact hl
    | _ => exact ⟨f, hRf, by rw [hst]; exact nofun⟩

theorem loadRoot_spec (fs : FS) (n r : Nat) : Spec fs (Reach fs r) [] [r] (loadRoot fs n r) :=
  load_spec (fun _ _ => .tail) (n + 1) [] r (.refl r) List.not_mem_nil

/-! ## Fuel: `#files + 1` is always enough

The files of the tree that are not yet visited get fewer with every file that is read. -/

open Graph

/-- the visited set only grows -/
theorem load_visited_mono {fuel f : Nat} {c1 : List Nat} (hf : f ∉ vis)
    (h : load fs fuel vis f = .ok vis1 c1) {x : Nat} (hx : x ∈ vis) : x ∈ vis1 :=
  have : Spec fs (fun _ => True) vis [f] (.ok vis1 c1) :=
    h ▸ load_spec (fun _ _ _ _ => trivial) fuel vis f trivial hf
  this.1.subset hx

/-- the files of the tree are `0..n-1` and imports stay inside it -/
def Closed (fs : FS) (n : Nat) : Prop := ∀ x, x < n → ∀ y ∈ fs.imports x, y < n

/-- the loop does not run out of fuel if the recursive call `ld` does not: `n` is the number of
files of the tree, `k` bounds how many of them are not yet visited, and `hmono` says that `ld` only
adds to the visited set, so that the bound survives each call -/
theorem loadList_fuel {n k : Nat} {ld : List Nat → Nat → Res}
    (hmono : ∀ vis v vis1 c1, v ∉ vis → ld vis v = .ok vis1 c1 → ∀ x ∈ vis, x ∈ vis1)
    (hld : ∀ vis v, v < n → v ∉ vis → cnt (List.range n) vis ≤ k → ld vis v ≠ .outOfFuel)
    (vs : List Nat) (hvs : ∀ v ∈ vs, v < n) :
    ∀ vis, cnt (List.range n) vis ≤ k → loadList ld vis vs ≠ .outOfFuel := by
  induction vs with
  | nil => exact fun _ _ => nofun
  | cons v rest ih =>
    intro vis hk
    obtain ⟨hv, hrest⟩ := List.forall_mem_cons.mp hvs
    rw [loadList_cons]
    split
    · exact ih hrest vis hk
    · rename_i hvis
      exact Res.andThen_ne_outOfFuel (hld vis v hv hvis hk) fun vis1 c1 h1 =>
        ih hrest vis1 (Nat.le_trans (cnt_anti _ (hmono vis v vis1 c1 hvis h1)) hk)

theorem load_fuel (fs : FS) (n : Nat) (hclosed : Closed fs n) (fuel : Nat) :
    ∀ vis f, f < n → f ∉ vis → cnt (List.range n) (f :: vis) < fuel → load fs fuel vis f ≠ .outOfFuel := by
  induction fuel with
  | zero => exact fun _ _ _ _ h => absurd h (Nat.not_lt_zero _)
  | succ fuel ih =>
    intro vis f hf hfv hc
    rw [load_succ]
    split
    · refine Res.andThen_ne_outOfFuel nofun fun vis1 c h => ?_
      cases h
      refine loadList_fuel (fun _ _ _ _ => load_visited_mono) (fun vis v hv hvis hk => ?_) _
        (hclosed f hf) _ (Nat.le_of_lt_succ hc)
      exact ih vis v hv hvis (Nat.lt_of_lt_of_le (cnt_cons_lt _ vis v (List.mem_range.mpr hv) hvis) hk)
    · nofun

end Imports
