import TaskctlVerif.Model.Output
/-!
# Lemmas for C19: nothing is lost by the line splitter under any chunking (`N_…`), and what it
hands on is free of line feeds (`splitLF_no_LF`, `of_mem_tokens`)
-/
namespace Out

theorem N_append (a b : Bytes) : N (a ++ b) = N a ++ N b := List.filter_append ..

theorem N_dropLast_CR (l : Bytes) (h : l.getLast? = some CR) : N l.dropLast = N l := by
  obtain ⟨ys, rfl⟩ := List.getLast?_eq_some_iff.mp h
  rw [List.dropLast_concat, N_append]
  exact (List.append_nil _).symm  -- `N [CR]` evaluates to `[]`

theorem N_dropCR (l : Bytes) : N (dropCR l) = N l := by
  unfold dropCR; split
  · exact N_dropLast_CR l ‹_›
  · rfl

theorem N_flatten (ls : List Bytes) : N ls.flatten = (ls.map N).flatten := List.filter_flatten

theorem N_flatten_filter (ls : List Bytes) : N ((ls.filter (· ≠ [])).flatten) = N ls.flatten := by
  rw [List.flatten_filter_ne_nil]

theorem N_flatten_map_dropCR (ls : List Bytes) : N ((ls.map dropCR).flatten) = N ls.flatten := by
  rw [N_flatten, N_flatten, List.map_map]
  exact congrArg List.flatten (List.map_congr_left fun l _ => N_dropCR l)

theorem N_splitLF (acc l : Bytes) : N (splitLF acc l).flatten = N (acc.reverse ++ l) := by
  induction l generalizing acc with
  | nil =>
    rw [splitLF, List.append_nil]
    split
    · rw [‹acc = []›]; rfl
    · exact congrArg N (List.append_nil _)
  | cons b rest ih =>
    rw [splitLF]
    split
    · rw [‹b = LF›, List.flatten_cons, N_append, N_append, ih]
      rfl  -- `N (LF :: rest)` evaluates to `N rest`
    · rw [ih, List.reverse_cons, List.append_assoc]; rfl

theorem N_tokens (chunk : Bytes) : N (tokens chunk).flatten = N chunk := by
  unfold tokens
  rw [N_flatten_filter, N_flatten_map_dropCR, N_splitLF]; rfl

/-- every emitted token is LF-free: one token = (part of) one line -/
theorem splitLF_no_LF (acc l : Bytes) (hacc : LF ∉ acc) : ∀ t ∈ splitLF acc l, LF ∉ t := by
  induction l generalizing acc with
  | nil =>
    rw [splitLF]
    split
    · exact fun _ h => nomatch h
    · exact fun t ht => List.mem_singleton.mp ht ▸ mt List.mem_reverse.mp hacc
  | cons b rest ih =>
    rw [splitLF]
    split
    · intro t ht
      rcases List.mem_cons.mp ht with rfl | ht
      · exact mt List.mem_reverse.mp hacc
      · exact ih [] List.not_mem_nil t ht
    · exact ih (b :: acc) fun h => (List.mem_cons.mp h).elim (‹¬ b = LF› ∘ Eq.symm) hacc

theorem dropCR_no_LF (t : Bytes) (h : LF ∉ t) : LF ∉ dropCR t := by
  unfold dropCR
  split
  · exact fun hm => h ((List.dropLast_sublist t).subset hm)
  · exact h

/-- what is handed to the line writer: non-empty pieces without a line feed -/
theorem of_mem_tokens {chunk t : Bytes} (ht : t ∈ tokens chunk) : LF ∉ t ∧ t ≠ [] := by
  obtain ⟨ht, hne⟩ := List.mem_filter.mp ht
  obtain ⟨t0, ht0, rfl⟩ := List.mem_map.mp ht
  exact ⟨dropCR_no_LF t0 (splitLF_no_LF [] chunk List.not_mem_nil t0 ht0), of_decide_eq_true hne⟩

/-- a list splits in one way only at the first occurrence of `e` -/
theorem append_cons_inj_of_not_mem {α : Type} {e : α} {a b x y : List α} (ha : e ∉ a) (hb : e ∉ b)
    (h : a ++ e :: x = b ++ e :: y) : a = b ∧ x = y := by
  induction a generalizing b with
  | nil =>
    cases b with
    | nil => exact ⟨rfl, (List.cons.inj h).2⟩
    | cons d ds => exact absurd ((List.cons.inj h).1 ▸ List.mem_cons_self) hb
  | cons c cs ih =>
    cases b with
    | nil => exact absurd ((List.cons.inj h).1 ▸ List.mem_cons_self) ha
    | cons d ds =>
      obtain ⟨rfl, h'⟩ := List.cons.inj h
      obtain ⟨rfl, hxy⟩ := ih (mt (List.mem_cons_of_mem _) ha) (mt (List.mem_cons_of_mem _) hb) h'
      exact ⟨rfl, hxy⟩

end Out
