import TaskctlVerif.Model.Graph
/-!
# Proofs about the graph model (C05): on-path DFS ⇔ reachable cycle, and `build` ⇔ `HasCycle`.
-/
namespace Graph
variable {α : Type} [DecidableEq α]

inductive Reach (adj : α → List α) : α → α → Prop
  | refl (a) : Reach adj a a
  | step {a b c} : b ∈ adj a → Reach adj b c → Reach adj a c

/-- `a` lies on a cycle of length ≥ 1 (a self-loop is a cycle) -/
def OnCycle (adj : α → List α) (a : α) : Prop := ∃ b, b ∈ adj a ∧ Reach adj b a

/-- the depends_on relation, given as an edge list, contains a cycle -/
def HasCycle (es : List (Edge α)) : Prop := ∃ a, OnCycle (fromOf es) a

theorem Reach.trans {adj : α → List α} {a b c} (h1 : Reach adj a b) (h2 : Reach adj b c) :
    Reach adj a c := by
  induction h1 with
  | refl => exact h2
  | step hb _ ih => exact .step hb (ih h2)

omit [DecidableEq α] in
theorem Reach.mono {adj adj' : α → List α} (h : ∀ a b, b ∈ adj a → b ∈ adj' a) {a b}
    (hr : Reach adj a b) : Reach adj' a b := by
  induction hr with
  | refl => exact .refl _
  | step hb _ ih => exact .step (h _ _ hb) ih

/-- what a positive answer means -/
def Hit (adj : α → List α) (path : List α) (t : α) : Prop :=
  (∃ p, p ∈ path ∧ Reach adj t p) ∨ (∃ a, Reach adj t a ∧ OnCycle adj a)

omit [DecidableEq α] in
/-- `Hit` obeys the recursion of `dfs` -/
theorem hit_iff (adj : α → List α) (path : List α) (t : α) :
    Hit adj path t ↔ t ∈ path ∨ ∃ nx, nx ∈ adj t ∧ Hit adj (t :: path) nx := by
  constructor
  · rintro (⟨p, hp, hr⟩ | ⟨a, hr, hc⟩)
    · cases hr with
      | refl => exact .inl hp
      | step hb hr' => exact .inr ⟨_, hb, .inl ⟨p, List.mem_cons_of_mem _ hp, hr'⟩⟩
    · cases hr with
      | refl =>
        obtain ⟨b, hb, hbr⟩ := hc
        exact .inr ⟨b, hb, .inl ⟨t, List.mem_cons_self, hbr⟩⟩
      | step hb hr' => exact .inr ⟨_, hb, .inr ⟨a, hr', hc⟩⟩
  · rintro (hm | ⟨nx, hnx, ⟨p, hp, hr⟩ | ⟨a, hr, hc⟩⟩)
    · exact .inl ⟨t, hm, .refl t⟩
    · rcases List.mem_cons.mp hp with rfl | hp
      · exact .inr ⟨p, .refl p, nx, hnx, hr⟩
      · exact .inl ⟨p, hp, .step hnx hr⟩
    · exact .inr ⟨a, .step hnx hr, hc⟩

omit [DecidableEq α] in
theorem hit_nil (adj : α → List α) (t : α) :
    Hit adj [] t ↔ ∃ a, Reach adj t a ∧ OnCycle adj a := by
  simp [Hit]

theorem dfs_succ (adj : α → List α) (f : Nat) (path : List α) (t : α) :
    dfs adj (f + 1) path t = true ↔
      t ∈ path ∨ ∃ nx, nx ∈ adj t ∧ dfs adj f (t :: path) nx = true := by
  simp only [dfs]
  split <;> simp [*]

theorem dfs_sound (adj : α → List α) : ∀ f path t, dfs adj f path t = true → Hit adj path t := by
  intro f
  induction f with
  | zero => intro path t h; cases h
  | succ f ih =>
    intro path t h
    rw [dfs_succ] at h
    exact (hit_iff adj path t).mpr (h.imp_right fun ⟨nx, hnx, hd⟩ => ⟨nx, hnx, ih _ _ hd⟩)

/-- number of universe nodes not yet on the path: the termination measure -/
def cnt (nodes path : List α) : Nat := (nodes.filter (fun x => decide (x ∉ path))).length

theorem filter_len_le (p q : α → Bool) (h : ∀ x, p x = true → q x = true) (l : List α) :
    (l.filter p).length ≤ (l.filter q).length := by
  rw [← List.countP_eq_length_filter, ← List.countP_eq_length_filter]
  exact List.countP_mono_left fun x _ => h x

/-- a longer path leaves fewer nodes to visit -/
theorem cnt_anti (nodes : List α) {path path' : List α} (h : ∀ x ∈ path, x ∈ path') :
    cnt nodes path' ≤ cnt nodes path :=
  filter_len_le _ _ (fun x => by simpa using mt (h x)) nodes

theorem cnt_cons_le (nodes path : List α) (t : α) : cnt nodes (t :: path) ≤ cnt nodes path :=
  cnt_anti nodes fun _ => List.mem_cons_of_mem t

theorem cnt_cons_lt (nodes path : List α) (t : α) (hn : t ∈ nodes) (hp : t ∉ path) :
    cnt nodes (t :: path) < cnt nodes path := by
  -- the nodes off `t :: path` are those off `path` other than `t`, and `t` is one of the latter
  have e : nodes.filter (fun x => decide (x ∉ t :: path))
      = (nodes.filter (fun x => decide (x ∉ path))).filter (fun x => decide (x ≠ t)) := by
    rw [List.filter_filter]
    exact List.filter_congr fun x _ => by simp
  unfold cnt
  rw [e]
  exact List.length_filter_lt_length_iff_exists.2
    ⟨t, List.mem_filter.2 ⟨hn, by simpa using hp⟩, by simp⟩

theorem cnt_le (nodes path : List α) : cnt nodes path ≤ nodes.length :=
  List.length_filter_le _ _

/-- `nodes` is any list that holds every node with a successor (`hnodes`): only such a node makes
the search descend, and each descent puts one more of them on the path, so fuel beyond the number
of those still off the path is never used -/
theorem dfs_complete (adj : α → List α) (nodes : List α) (hnodes : ∀ t, adj t ≠ [] → t ∈ nodes) :
    ∀ f path t, cnt nodes path < f → Hit adj path t → dfs adj f path t = true := by
  intro f
  induction f with
  | zero => intro path t h; omega
  | succ f ih =>
    intro path t hf hit
    rw [dfs_succ]
    by_cases hm : t ∈ path
    · exact .inl hm
    · obtain ⟨nx, hnx, h⟩ := ((hit_iff adj path t).mp hit).resolve_left hm
      have := cnt_cons_lt nodes path t (hnodes t (List.ne_nil_of_mem hnx)) hm
      exact .inr ⟨nx, hnx, ih _ _ (by omega) h⟩

/-- with an empty path and enough fuel the DFS answers exactly "a cycle is reachable from t" -/
theorem dfs_iff (adj : α → List α) (nodes : List α) (hnodes : ∀ t, adj t ≠ [] → t ∈ nodes) (t : α) :
    dfs adj (nodes.length + 1) [] t = true ↔ ∃ a, Reach adj t a ∧ OnCycle adj a :=
  ⟨fun h => (hit_nil adj t).mp (dfs_sound adj _ _ _ h),
   fun h => dfs_complete adj nodes hnodes _ _ _ (Nat.lt_succ_of_le (cnt_le nodes [])) ((hit_nil adj t).mpr h)⟩

/-! ## Edge lists -/

theorem mem_fromOf {es : List (Edge α)} {a b : α} : b ∈ fromOf es a ↔ (a, b) ∈ es := by
  simp [fromOf]

theorem mem_toOf {es : List (Edge α)} {a b : α} : a ∈ toOf es b ↔ (a, b) ∈ es := by
  simp [toOf]

theorem toOf_append (a b : List (Edge α)) (n : α) : toOf (a ++ b) n = toOf a n ++ toOf b n := by
  simp [toOf]

/-- the edges into a stage named `m` end in `n` iff `m = n` -/
theorem toOf_map_pair (ds : List α) (m n : α) :
    toOf (ds.map fun d => (d, m)) n = if m = n then ds else [] := by
  split <;> simp [toOf, List.filter_map, Function.comp_def, *]

omit [DecidableEq α] in
theorem mem_edgesOf {stages : List (Stage α)} {d n : α} :
    (d, n) ∈ edgesOf stages ↔ ∃ s ∈ stages, s.name = n ∧ d ∈ s.deps := by
  simp only [edgesOf, List.mem_flatMap, List.mem_map, Prod.mk.injEq]
  constructor
  · rintro ⟨s, hs, d', hd', rfl, rfl⟩; exact ⟨s, hs, rfl, hd'⟩
  · rintro ⟨s, hs, rfl, hd⟩; exact ⟨s, hs, d, hd, rfl, rfl⟩

/-- where `f` is injective on a list, filtering by the `f`-value of a member leaves that member -/
theorem filter_eq_singleton {β γ : Type} [DecidableEq γ] (f : β → γ) {l : List β}
    (hnd : (l.map f).Nodup) {a : β} (ha : a ∈ l) : l.filter (fun x => f x = f a) = [a] := by
  induction l with
  | nil => cases ha
  | cons x xs ih =>
    rw [List.map_cons, List.nodup_cons] at hnd
    rcases List.mem_cons.mp ha with rfl | ha'
    · rw [List.filter_cons, if_pos (decide_eq_true rfl), List.filter_eq_nil_iff.mpr]
      exact fun x hx hfx => hnd.1 (List.mem_map.mpr ⟨x, hx, of_decide_eq_true hfx⟩)
    · rw [List.filter_cons, if_neg, ih hnd.2 ha']
      exact fun e => hnd.1 (List.mem_map.mpr ⟨a, ha', (of_decide_eq_true e).symm⟩)

/-- for the graph of an edge list, `#edges + 1` is enough fuel -/
theorem dfs_fromOf_iff (es : List (Edge α)) (t : α) :
    dfs (fromOf es) (es.length + 1) [] t = true ↔
      ∃ a, Reach (fromOf es) t a ∧ OnCycle (fromOf es) a := by
  -- the sources of the edges, one per edge, hold every node with a successor: hence `#edges`
  have := dfs_iff (fromOf es) (es.map (·.1)) (t := t) fun x hx =>
    have ⟨y, hy⟩ := List.exists_mem_of_ne_nil _ hx
    List.mem_map.mpr ⟨(x, y), mem_fromOf.mp hy, rfl⟩
  rwa [List.length_map] at this

/-! More edges: more successors, more paths, more cycles. -/

theorem fromOf_mono {es es' : List (Edge α)} (h : es ⊆ es') {a b : α} (hb : b ∈ fromOf es a) :
    b ∈ fromOf es' a :=
  mem_fromOf.mpr (h (mem_fromOf.mp hb))

theorem Reach.mono_edges {es es' : List (Edge α)} (h : es ⊆ es') {a b : α} :
    Reach (fromOf es) a b → Reach (fromOf es') a b :=
  Reach.mono fun _ _ => fromOf_mono h

theorem HasCycle.mono {es es' : List (Edge α)} (h : es ⊆ es') : HasCycle es → HasCycle es' := by
  rintro ⟨a, b, hb, hr⟩
  exact ⟨a, b, fromOf_mono h hb, hr.mono_edges h⟩

theorem not_hasCycle_nil : ¬ HasCycle ([] : List (Edge α)) := by
  rintro ⟨a, b, hb, _⟩
  cases hb

theorem mem_fromOf_snoc {es : List (Edge α)} {f t a b : α} :
    b ∈ fromOf (es ++ [(f, t)]) a ↔ b ∈ fromOf es a ∨ (a = f ∧ b = t) := by
  simp [mem_fromOf]

/-- the new edge `f → t` closes a cycle through `f` if `t` reached `f` before -/
theorem onCycle_snoc {es : List (Edge α)} {f t : α} (h : Reach (fromOf es) t f) :
    OnCycle (fromOf (es ++ [(f, t)])) f :=
  ⟨t, mem_fromOf_snoc.mpr (.inr ⟨rfl, rfl⟩), h.mono_edges (List.subset_append_left ..)⟩

/-- a path in the graph with one more edge `f → t` is a path of the old graph, or consists of an old
path to `f`, the new edge (possibly several times) and an old path from `t` -/
theorem reach_snoc (es : List (Edge α)) (f t : α) {x y : α}
    (h : Reach (fromOf (es ++ [(f, t)])) x y) :
    Reach (fromOf es) x y ∨ (Reach (fromOf es) x f ∧ Reach (fromOf es) t y) := by
  induction h with
  | refl a => exact .inl (.refl a)
  | step hb _ ih =>
    rcases mem_fromOf_snoc.mp hb with hb | ⟨rfl, rfl⟩
    · exact ih.imp (.step hb) (.imp_left (.step hb))
    · exact .inr ⟨.refl _, ih.elim id And.right⟩

/-- one more edge `f → t` closes a cycle exactly when `t` already reaches `f` -/
theorem hasCycle_snoc (es : List (Edge α)) (f t : α) :
    HasCycle (es ++ [(f, t)]) ↔ HasCycle es ∨ Reach (fromOf es) t f := by
  constructor
  · rintro ⟨a, b, hb, hr⟩
    rcases mem_fromOf_snoc.mp hb with hb | ⟨rfl, rfl⟩
    · rcases reach_snoc es f t hr with h | ⟨h1, h2⟩
      · exact .inl ⟨a, b, hb, h⟩
      · exact .inr (h2.trans (.step hb h1))
    · exact .inr ((reach_snoc es a b hr).elim id And.right)
  · rintro (h | h)
    · exact h.mono (List.subset_append_left ..)
    · exact ⟨f, onCycle_snoc h⟩

/-- on an acyclic graph, the search `addEdge` runs after appending `f → t` finds a cycle iff there
is one -/
theorem dfs_snoc_iff (es : List (Edge α)) (f t : α) (hac : ¬ HasCycle es) :
    dfs (fromOf (es ++ [(f, t)])) ((es ++ [(f, t)]).length + 1) [] t = true ↔
      HasCycle (es ++ [(f, t)]) := by
  rw [dfs_fromOf_iff]
  constructor
  · rintro ⟨a, _, hc⟩
    exact ⟨a, hc⟩
  · intro hc
    -- a new cycle passes through `f → t`, so the search from `t` comes back to `f`
    have h := ((hasCycle_snoc es f t).mp hc).resolve_left hac
    exact ⟨f, h.mono_edges (List.subset_append_left ..), onCycle_snoc h⟩

/-- `addEdge` on an acyclic graph: it fails and the new graph is cyclic, or it appends the edge and
the new graph is acyclic -/
theorem addEdge_spec (es : List (Edge α)) (f t : α) (hac : ¬ HasCycle es) :
    addEdge es f t = none ∧ HasCycle (es ++ [(f, t)]) ∨
    addEdge es f t = some (es ++ [(f, t)]) ∧ ¬ HasCycle (es ++ [(f, t)]) := by
  have key := dfs_snoc_iff es f t hac
  simp only [addEdge]
  split
  · exact .inl ⟨rfl, key.mp ‹_›⟩
  · exact .inr ⟨rfl, fun hc => ‹¬ _› (key.mpr hc)⟩

/-- processing a list of edges one by one -/
def addEdges (acc : List (Edge α)) (es : List (Edge α)) : Option (List (Edge α)) :=
  es.foldlM (fun a e => addEdge a e.1 e.2) acc

theorem addEdges_spec (es : List (Edge α)) : ∀ acc, ¬ HasCycle acc →
    addEdges acc es = none ∧ HasCycle (acc ++ es) ∨
    addEdges acc es = some (acc ++ es) ∧ ¬ HasCycle (acc ++ es) := by
  induction es with
  | nil =>
    intro acc hac
    rw [List.append_nil]
    exact .inr ⟨rfl, hac⟩
  | cons e es ih =>
    obtain ⟨f, t⟩ := e
    intro acc hac
    unfold addEdges
    rw [List.append_cons, List.foldlM_cons]
    rcases addEdge_spec acc f t hac with ⟨h, hc⟩ | ⟨h, hc⟩
    · rw [h]
      exact .inl ⟨rfl, hc.mono (List.subset_append_left ..)⟩
    · rw [h]
      exact ih _ hc

theorem foldlM_addStage_eq_addEdges (stages : List (Stage α)) :
    ∀ acc, stages.foldlM addStage acc = addEdges acc (edgesOf stages) := by
  induction stages with
  | nil => intro acc; rfl
  | cons s ss ih =>
    intro acc
    unfold addEdges edgesOf
    rw [List.foldlM_cons, List.flatMap_cons, List.foldlM_append, List.foldlM_map]
    unfold addStage
    congr 1
    funext acc'
    exact ih acc'

/-- `build`: it fails and the declared edges form a cycle, or it returns the declared edges and
they form none -/
theorem build_spec (stages : List (Stage α)) :
    build stages = none ∧ HasCycle (edgesOf stages) ∨
    build stages = some (edgesOf stages) ∧ ¬ HasCycle (edgesOf stages) := by
  have := addEdges_spec (edgesOf stages) [] not_hasCycle_nil
  rwa [← foldlM_addStage_eq_addEdges, List.nil_append] at this

end Graph
