import TaskctlVerif.Proofs.Stage
/-!
# Invariants of the scheduler model S (helper lemmas for C01–C04)

`step_move` shows once that every action moves at most one stage, one step along the life cycle of
`Proofs/Stage.lean`.  What `Inv`, `Agree` and the error-flag invariant say stage by stage is read off
it; only what they say of the loop's program counter is followed through the actions separately
(`step_chk`, `step_examines`).
-/
namespace Sched

/-- a dependency is satisfied: done, skipped, or an allowed error -/
def Sat (c : Cfg) (σ : St) (d : Nat) : Prop :=
  σ.status d = .done ∨ σ.status d = .skipped ∨ (σ.status d = .error ∧ c.allow d = true)


/-- the loop is through with stage `d`: it will not be examined or waited for again -/
def Decided (σ : St) (d : Nat) : Prop := σ.status d ≠ .waiting ∧ σ.status d ≠ .running

theorem isDone_iff {n : Nat} {σ : St} : isDone n σ = true ↔ ∀ s, s < n → Decided σ s := by
  simp [isDone, Decided]

structure Inv (c : Cfg) (σ : St) : Prop where
  g_none  : ∀ s, σ.g s = .none → σ.status s = .waiting ∨ σ.status s = .skipped ∨ σ.status s = .canceled ∨ σ.status s = .error
  g_run   : ∀ s, σ.g s = .inRun → σ.status s = .running
  run_g   : ∀ s, σ.status s = .running → σ.g s = .inRun
  g_after : ∀ s, σ.g s = .afterErr → σ.status s = .error
  g_fin   : ∀ s, σ.g s = .fin → σ.status s = .done ∨ σ.status s = .error
  started : ∀ s, σ.g s ≠ .none → ∀ d ∈ c.deps s, Sat c σ d
  chk     : ∀ s rest ready, σ.pc = .check s rest ready →
              σ.g s = .none ∧ (σ.status s = .waiting ∨ (σ.status s = .canceled ∧ ready = false)) ∧
              (ready = true → ∀ d ∈ c.deps s, d ∈ rest ∨ Sat c σ d)

theorem inv_init (c : Cfg) : Inv c init := by
  constructor <;> simp [init]

theorem gcases (σ : St) (s : Nat) : σ.g s = .none ∨ σ.g s = .inRun ∨ σ.g s = .afterErr ∨ σ.g s = .fin := by
  cases σ.g s <;> simp

/-- actions of the loop thread -/
def Act.isLoop : Act → Bool
  | .visit _ | .read | .decide => true
  | _ => false

/-- what holds of action `a` taken in state `σ` -/
def At (c : Cfg) (σ : St) (a : Act) : Obs → Prop
  | .loop pc => a.isLoop = true ∧ σ.pc = pc
  | .ret s ok => a = .ret s ok
  | .flag => (step c σ a).gerr = true

theorem Inv.coh {c σ} (h : Inv c σ) (s : Nat) : Coh (σ.status s) (σ.g s) :=
  ⟨h.g_none s, h.g_run s, h.run_g s, h.g_after s, h.g_fin s⟩

/-- every action moves at most one stage, one step along its life cycle -/
theorem step_move {c σ} (a : Act) (h : Inv c σ) (x : Nat) :
    Move c (At c σ a) σ.status x (σ.status x) (σ.g x) (σ.starts x)
      ((step c σ a).status x) ((step c σ a).g x) ((step c σ a).starts x) := by
  cases a with
  | visit s =>
    simp only [step]; split
    · split
      · rename_i hp hw
        have hn := (h.coh s).none (.inl hw)
        split
        · exact Move.write_st hw hn (.skip ⟨rfl, hp⟩ ‹_›) x
        · exact Move.write_st hw hn (.cerr ⟨rfl, hp⟩ ‹_›) x
        · exact .stay
      · exact .stay
    · exact .stay
  | read =>
    simp only [step]; split
    · rename_i s d rest ready hpc
      have hc := h.chk _ _ _ hpc
      have cancel (hd : Bad c d (σ.status d)) :
          Move c (At c σ .read) σ.status x (σ.status x) (σ.g x) (σ.starts x)
            (upd σ.status s .canceled x) (σ.g x) (σ.starts x) :=
        Move.write_st rfl hc.1 (.cancel (hc.2.1.imp_right And.left) ⟨rfl, hpc⟩ hd) x
      split
      · exact .stay
      · exact .stay
      · split
        · exact .stay
        · exact cancel (.inr ⟨‹_›, ‹_›⟩)
      · exact cancel (.inl ‹_›)
      · exact .stay
    · exact .stay
  | decide =>
    simp only [step]; split
    · rename_i s ready hpc
      have hc := h.chk _ _ _ hpc
      split
      · rename_i hr
        have hw : σ.status s = .waiting := hc.2.1.resolve_right fun hk => by simp [hr] at hk
        have hd d (hd : d ∈ c.deps s) : Sat c σ d := (hc.2.2 hr d hd).resolve_left List.not_mem_nil
        exact Move.write_all hw hc.1 (.start ⟨rfl, hpc⟩ hd) x
      · exact .stay
    · exact .stay
  | ret s ok =>
    simp only [step]; split
    · rename_i hg
      cases ok
      · exact Move.write (h.g_run s hg) hg (.fail (by rfl)) x
      · exact Move.write (h.g_run s hg) hg (.ok (by rfl)) x
    · exact .stay
  | post s =>
    simp only [step]; split
    · rename_i hg
      split
      · exact Move.write (h.g_after s hg) hg (.allow ‹_›) x
      · exact Move.write_g (h.g_after s hg) hg (.deny (by simp [At, step, *]) ‹_›) x
    · exact .stay
  | cancel => exact .stay

/-- what `Inv` knows of the loop at `pc` -/
def Chk (c : Cfg) (σ : St) : Pc → Prop
  | .idle => True
  | .check s rest ready => σ.g s = .none ∧
      (σ.status s = .waiting ∨ (σ.status s = .canceled ∧ ready = false)) ∧
      (ready = true → ∀ d ∈ c.deps s, d ∈ rest ∨ Sat c σ d)

theorem Inv.chk_pc {c σ} (h : Inv c σ) : Chk c σ σ.pc := by
  unfold Chk; split
  · trivial
  · exact h.chk _ _ _ ‹_›

/-- the goroutines leave the stage under examination alone: it has no goroutine yet -/
theorem Chk.not_loop {c σ σ' E p} (hc : Chk c σ p) (hE : ∀ p, ¬ E (.loop p))
    (hm : ∀ x, Move c E σ.status x (σ.status x) (σ.g x) (σ.starts x)
      (σ'.status x) (σ'.g x) (σ'.starts x)) : Chk c σ' p := by
  unfold Chk at *; split
  · trivial
  · rename_i s rest ready
    have := (hc.1 ▸ hm s).not_loop hE
    exact ⟨this.2, this.1 ▸ hc.2.1, fun hr d hd => (hc.2.2 hr d hd).imp_right (hm d).ok_mono⟩

theorem step_pc {c σ} (a : Act) (ha : a.isLoop = false) : (step c σ a).pc = σ.pc := by
  cases a with
  | visit | read | decide => cases ha
  | ret | post => simp only [step]; repeat' split
                  all_goals rfl
  | cancel => rfl

theorem step_chk {c σ} (a : Act) (h : Inv c σ) : Chk c (step c σ a) (step c σ a).pc := by
  have hc := h.chk_pc
  have task (ha : a.isLoop = false) : Chk c (step c σ a) (step c σ a).pc := by
    rw [step_pc a ha]
    exact hc.not_loop (fun _ hp => by simp [At, ha] at hp) (step_move a h)
  cases a with
  | visit s =>
    simp only [step]; split
    · split
      · rename_i hp hw
        split
        · rw [hp]; trivial
        · rw [hp]; trivial
        · exact ⟨(h.coh s).none (.inl hw), .inl hw, fun _ _ hd => .inl hd⟩
      · exact hc
    · exact hc
  | read =>
    simp only [step]; split
    · rename_i s d rest ready hpc
      have hc := h.chk _ _ _ hpc
      have sat (hd : Sat c σ d) : Chk c σ (.check s rest ready) :=
        ⟨hc.1, hc.2.1, fun hr x hx => read_dep hd (hc.2.2 hr x hx)⟩
      split
      · exact sat (.inl ‹_›)
      · exact sat (.inr (.inl ‹_›))
      · split
        · exact sat (.inr (.inr ⟨‹_›, ‹_›⟩))
        · exact ⟨hc.1, .inr ⟨upd_same .., rfl⟩, nofun⟩
      · exact ⟨hc.1, .inr ⟨upd_same .., rfl⟩, nofun⟩
      · exact ⟨hc.1, hc.2.1.imp_right fun hk => ⟨hk.1, rfl⟩, nofun⟩
    · exact hc
  | decide =>
    simp only [step]; split
    · split <;> trivial
    · exact hc
  | ret s ok => exact task rfl
  | post s => exact task rfl
  | cancel => exact task rfl

theorem inv_step (c : Cfg) (σ : St) (a : Act) (h : Inv c σ) : Inv c (step c σ a) := by
  have ⟨k, ks⟩ := moves_stages (step_move a h) h.coh h.started
  exact ⟨fun s => (k s).1, fun s => (k s).2.1, fun s => (k s).2.2.1, fun s => (k s).2.2.2.1,
    fun s => (k s).2.2.2.2, ks, fun s rest ready hpc => by
      have := step_chk a h
      rwa [hpc] at this⟩

theorem inv_read (c : Cfg) (σ : St) (h : Inv c σ) : Inv c (step c σ .read) := inv_step c σ .read h

theorem inv_visit (c : Cfg) (σ : St) (s : Nat) (h : Inv c σ) : Inv c (step c σ (.visit s)) :=
  inv_step c σ (.visit s) h

theorem inv_decide (c : Cfg) (σ : St) (h : Inv c σ) : Inv c (step c σ .decide) := inv_step c σ .decide h

theorem inv_ret (c : Cfg) (σ : St) (s : Nat) (ok : Bool) (h : Inv c σ) : Inv c (step c σ (.ret s ok)) :=
  inv_step c σ (.ret s ok) h

theorem inv_post (c : Cfg) (σ : St) (s : Nat) (h : Inv c σ) : Inv c (step c σ (.post s)) :=
  inv_step c σ (.post s) h

theorem inv_run_from (c : Cfg) (as : List Act) (σ : St) (h : Inv c σ) : Inv c (run c σ as) :=
  List.foldlRecOn as (step c) h fun σ h a _ => inv_step c σ a h

theorem inv_run (c : Cfg) (as : List Act) : Inv c (run c init as) :=
  inv_run_from c as init (inv_init c)

/-! ## Runs -/

theorem run_append (c : Cfg) (σ : St) (as bs : List Act) :
    run c σ (as ++ bs) = run c (run c σ as) bs := by
  simp [run, List.foldl_append]

theorem run_cons (c : Cfg) (σ : St) (a : Act) (as : List Act) :
    run c σ (a :: as) = run c (step c σ a) as := rfl

/-! ## Agreement with the final-status equations (C02) -/

/-- a dependency that blocks its dependants in the final picture -/
def Blocked (c : Cfg) (f : Nat → Status) (s : Nat) : Prop :=
  ∃ d, d ∈ c.deps s ∧ (f d = .canceled ∨ f d = .error)

/-- `f` solves the "final status" equations of configuration `c` with task outcomes `okf` -/
structure IsFinal (c : Cfg) (okf : Nat → Bool) (f : Nat → Status) : Prop where
  skip : ∀ s, c.cond s = .fails → f s = .skipped
  canc : ∀ s, c.cond s ≠ .fails → Blocked c f s → f s = .canceled
  runs : ∀ s, c.cond s ≠ .fails → ¬ Blocked c f s → f s = outcome c okf s

/-- reachable states agree with any solution `f` wherever a stage is decided -/
structure Agree (c : Cfg) (okf : Nat → Bool) (f : Nat → Status) (σ : St) : Prop where
  started : ∀ s, σ.g s ≠ .none → f s = outcome c okf s
  skipped : ∀ s, σ.status s = .skipped → f s = .skipped
  canceled : ∀ s, σ.status s = .canceled → f s = .canceled
  fin     : ∀ s, σ.g s = .fin → σ.status s = f s
  after   : ∀ s, σ.g s = .afterErr → okf s = false
  err_run : ∀ s, σ.status s = .error → σ.g s ≠ .none
  chk     : ∀ s rest ready, σ.pc = .check s rest ready → c.cond s ≠ .fails
  chk_sub : ∀ s rest ready, σ.pc = .check s rest ready → ∀ d, d ∈ rest → d ∈ c.deps s

/-- what `Agree` says of one stage with status `v` and goroutine state `w` -/
def Agr (c : Cfg) (okf : Nat → Bool) (f : Nat → Status) (s : Nat) (v : Status) (w : G) : Prop :=
  (w ≠ .none → f s = outcome c okf s) ∧ (v = .skipped → f s = .skipped) ∧
  (v = .canceled → f s = .canceled) ∧ (w = .fin → v = f s) ∧ (w = .afterErr → okf s = false) ∧
  (v = .error → w ≠ .none)

section
variable {c : Cfg} {okf : Nat → Bool} {f : Nat → Status} {E : Obs → Prop}
  {st : Nat → Status} {g : Nat → G} {s d : Nat} {v v' : Status} {w w' : G} {k k' : Nat}

/-- a satisfied dependency does not block, in any solution of the equations -/
theorem Agr.ok (k : Agr c okf f d v w) (hc : Coh v w) (h : Ok c d v) : f d ≠ .canceled ∧ f d ≠ .error := by
  cases w <;> grind [Agr, Coh, Ok, outcome]

/-- a failed dependency blocks -/
theorem Agr.bad (k : Agr c okf f d v w) (hc : Coh v w)
    (h : Bad c d v) : f d = .canceled ∨ f d = .error := by
  cases w <;> grind [Agr, Coh, Bad, outcome]

/-- a stage that is neither waiting nor running, and whose goroutine has no write left to make, has
its final status -/
theorem Agr.settled (k : Agr c okf f s v w) (hc : Coh v w)
    (h : v ≠ .waiting ∧ v ≠ .running ∧ w ≠ .afterErr) : v = f s := by
  cases w <;> grind [Agr, Coh]

/-- Every move keeps the stage in agreement with the solution `f`: it is skipped, cancelled or
started exactly when the equations say so, because its dependencies agree with `f` already. -/
theorem Move.agr (hf : ∀ p, E (.loop p) → IsFinal c okf f) (hne : E (.loop .idle) → c.cond s ≠ .err)
    (hP : ∀ rest ready, E (.loop (.check s rest ready)) → c.cond s ≠ .fails ∧ ∀ d ∈ rest, d ∈ c.deps s)
    (hR : ∀ ok, E (.ret s ok) → ok = okf s)
    (hall : ∀ d, Coh (st d) (g d) ∧ Agr c okf f d (st d) (g d))
    (h : Move c E st s v w k v' w' k') (ha : Agr c okf f s v w) : Agr c okf f s v' w' := by
  cases h with
  | stay => exact ha
  | skip hp hc => simp [Agr, (hf _ hp).skip s hc]
  | cerr hp hc => exact absurd hc (hne hp)
  | cancel _ hp hd =>
    have := hP _ _ hp
    simp [Agr, (hf _ hp).canc s this.1 ⟨_, this.2 _ List.mem_cons_self, (hall _).2.bad (hall _).1 hd⟩]
  | start hp hd =>
    have hb : ¬ Blocked c f s := fun ⟨d, hm, hb⟩ => by
      have := (hall d).2.ok (hall d).1 (hd d hm); grind
    simp [Agr, (hf _ hp).runs s (hP _ _ hp).1 hb]
  | ok ho => simp [Agr, ha.1 nofun, outcome, ← hR _ ho]
  | fail ho => simp [Agr, ha.1 nofun, ← hR _ ho]
  | allow hal => simp [Agr, ha.1 nofun, outcome, hal]
  | deny _ hal => simp [Agr, ha.1 nofun, outcome, hal, ha.2.2.2.2.1 rfl]
end

theorem agree_init (c : Cfg) (okf f) : Agree c okf f init := by
  constructor <;> simp [init]

theorem Agree.agr {c okf f σ} (h : Agree c okf f σ) (s : Nat) : Agr c okf f s (σ.status s) (σ.g s) :=
  ⟨h.started s, h.skipped s, h.canceled s, h.fin s, h.after s, h.err_run s⟩

/-- an action list respects the fixed outcomes -/
def Respects (okf : Nat → Bool) : Act → Prop
  | .ret s b => b = okf s
  | _ => True

/-- the loop examines only stages whose condition did not fail, and reads only their dependencies -/
theorem step_examines {c σ} (a : Act)
    (hk : ∀ s rest ready, σ.pc = .check s rest ready → c.cond s ≠ .fails ∧ ∀ d ∈ rest, d ∈ c.deps s)
    {s rest ready} (h : (step c σ a).pc = .check s rest ready) :
    c.cond s ≠ .fails ∧ ∀ d ∈ rest, d ∈ c.deps s := by
  cases a with
  | visit t =>
    simp only [step] at h; split at h
    · split at h
      · split at h
        · exact hk _ _ _ h
        · exact hk _ _ _ h
        · cases h; exact ⟨‹_›, fun _ hd => hd⟩
      · exact hk _ _ _ h
    · exact hk _ _ _ h
  | read =>
    simp only [step] at h; split at h
    · rename_i hpc
      have := hk _ _ _ hpc
      repeat' split at h
      all_goals cases h; exact ⟨this.1, fun d hd => this.2 d (List.mem_cons_of_mem _ hd)⟩
    · exact hk _ _ _ h
  | decide =>
    simp only [step] at h; split at h
    · split at h <;> cases h
    · exact hk _ _ _ h
  | ret t ok => exact hk _ _ _ (step_pc (.ret t ok) rfl ▸ h)
  | post t => exact hk _ _ _ (step_pc (.post t) rfl ▸ h)
  | cancel => exact hk _ _ _ h

/-- Agreement is kept by every action; the equations and the absence of condition errors are needed
only where the loop makes the move. -/
theorem agree_of {c okf f σ} (a : Act) (hf : ∀ p, At c σ a (.loop p) → IsFinal c okf f)
    (hne : At c σ a (.loop .idle) → ∀ s, c.cond s ≠ .err) (ha : Respects okf a) (hi : Inv c σ)
    (h : Agree c okf f σ) : Agree c okf f (step c σ a) := by
  have hk s rest ready (hp : σ.pc = .check s rest ready) := And.intro (h.chk _ _ _ hp) (h.chk_sub _ _ _ hp)
  have k s := (step_move a hi s).agr hf (fun hp => hne hp s) (fun _ _ hp => hk _ _ _ hp.2)
    (fun ok (e : a = .ret s ok) => by subst e; exact ha)
    (fun d => ⟨hi.coh d, h.agr d⟩) (h.agr s)
  exact ⟨fun s => (k s).1, fun s => (k s).2.1, fun s => (k s).2.2.1, fun s => (k s).2.2.2.1,
    fun s => (k s).2.2.2.2.1, fun s => (k s).2.2.2.2.2, fun _ _ _ hpc => (step_examines a hk hpc).1,
    fun _ _ _ hpc => (step_examines a hk hpc).2⟩

theorem agree_visit (c okf f σ) (s : Nat) (hf : IsFinal c okf f) (hne : ∀ s, c.cond s ≠ .err)
    (hi : Inv c σ) (h : Agree c okf f σ) : Agree c okf f (step c σ (.visit s)) :=
  agree_of (.visit s) (fun _ _ => hf) (fun _ => hne) trivial hi h

theorem agree_read (c okf f σ) (hf : IsFinal c okf f)
    (hi : Inv c σ) (h : Agree c okf f σ) : Agree c okf f (step c σ .read) := by
  by_cases hp : σ.pc = .idle
  · rwa [show step c σ .read = σ by simp [step, hp]]
  · exact agree_of .read (fun _ _ => hf) (fun hp' => absurd hp'.2 hp) trivial hi h

/-- a satisfied dependency does not block, in any solution of the equations -/
theorem sat_not_blocking (c okf f σ) (hi : Inv c σ) (h : Agree c okf f σ) (d : Nat)
    (hs : Sat c σ d) : f d ≠ .canceled ∧ f d ≠ .error :=
  (h.agr d).ok (hi.coh d) hs

theorem agree_decide (c okf f σ) (hf : IsFinal c okf f)
    (hi : Inv c σ) (h : Agree c okf f σ) : Agree c okf f (step c σ .decide) := by
  by_cases hp : σ.pc = .idle
  · rwa [show step c σ .decide = σ by simp [step, hp]]
  · exact agree_of .decide (fun _ _ => hf) (fun hp' => absurd hp'.2 hp) trivial hi h

theorem agree_ret (c okf f σ) (s : Nat) (b : Bool) (hb : b = okf s)
    (hi : Inv c σ) (h : Agree c okf f σ) : Agree c okf f (step c σ (.ret s b)) :=
  agree_of (.ret s b) (fun _ hp => nomatch hp.1) (fun hp => nomatch hp.1) hb hi h

theorem agree_post (c okf f σ) (s : Nat)
    (hi : Inv c σ) (h : Agree c okf f σ) : Agree c okf f (step c σ (.post s)) :=
  agree_of (.post s) (fun _ hp => nomatch hp.1) (fun hp => nomatch hp.1) trivial hi h

theorem agree_step (c okf f σ) (a : Act) (hf : IsFinal c okf f) (hne : ∀ s, c.cond s ≠ .err)
    (ha : Respects okf a) (hi : Inv c σ) (h : Agree c okf f σ) : Agree c okf f (step c σ a) :=
  agree_of a (fun _ _ => hf) (fun _ => hne) ha hi h

theorem agree_run (c okf f) (hf : IsFinal c okf f) (hne : ∀ s, c.cond s ≠ .err) (as : List Act)
    (has : ∀ a ∈ as, Respects okf a) : Inv c (run c init as) ∧ Agree c okf f (run c init as) :=
  List.foldlRecOn (motive := fun σ => Inv c σ ∧ Agree c okf f σ) as (step c)
    ⟨inv_init c, agree_init c okf f⟩
    fun σ h a ha => ⟨inv_step c σ a h.1, agree_step c okf f σ a hf hne (has a ha) h.1 h.2⟩


/-! ## Existence of the final status for acyclic configurations -/

/-- `rank` witnesses acyclicity of the dependency relation -/
def Acyclic (c : Cfg) (rank : Nat → Nat) : Prop := ∀ s d, d ∈ c.deps s → rank d < rank s

theorem any_congr_mem {α} {l : List α} {p q : α → Bool} (h : ∀ x ∈ l, p x = q x) : l.any p = l.any q := by
  induction l with
  | nil => rfl
  | cons a l ih =>
    simp only [List.any_cons, h a List.mem_cons_self, ih fun x hx => h x (List.mem_cons_of_mem _ hx)]

theorem finalF_fuel (c : Cfg) (okf : Nat → Bool) (rank : Nat → Nat) (hac : Acyclic c rank) :
    ∀ k s, rank s < k → ∀ k', rank s < k' → finalF c okf k s = finalF c okf k' s := by
  intro k
  induction k with
  | zero => intro s h; omega
  | succ k ih =>
    intro s hk k' hk'
    cases k' with
    | zero => omega
    | succ k' =>
      -- the dependencies have smaller rank, so both fuels suffice for them
      simp only [finalF]
      rw [any_congr_mem fun d hd => by
        rw [ih d (by have := hac s d hd; omega) k' (by have := hac s d hd; omega)]]

/-- the final status of every stage of an acyclic configuration -/
def final (c : Cfg) (okf : Nat → Bool) (rank : Nat → Nat) (s : Nat) : Status :=
  finalF c okf (rank s + 1) s

/-- `final` in terms of itself: one unfolding of `finalF`, the dependencies having enough fuel -/
theorem final_eq (c : Cfg) (okf : Nat → Bool) (rank : Nat → Nat) (hac : Acyclic c rank) (s : Nat) :
    final c okf rank s =
      if c.cond s = .fails then .skipped
      else if (c.deps s).any fun d =>
          decide (final c okf rank d = .canceled) || decide (final c okf rank d = .error)
        then .canceled else outcome c okf s := by
  rw [final, finalF]
  rw [any_congr_mem fun d hd => by
    rw [finalF_fuel c okf rank hac _ d (hac s d hd) (rank d + 1) (Nat.lt_succ_self _)]]
  rfl

theorem final_isFinal (c : Cfg) (okf : Nat → Bool) (rank : Nat → Nat) (hac : Acyclic c rank) :
    IsFinal c okf (final c okf rank) := by
  have hs := final_eq c okf rank hac
  have hb s : Blocked c (final c okf rank) s ↔ (c.deps s).any (fun d =>
      decide (final c okf rank d = .canceled) || decide (final c okf rank d = .error)) = true := by
    simp [Blocked]
  exact ⟨fun s h => by rw [hs, if_pos h], fun s h b => by rw [hs, if_neg h, if_pos ((hb s).mp b)],
    fun s h b => by rw [hs, if_neg h, if_neg (mt (hb s).mpr b)]⟩

/-! ## The error flag (C02): the run reports an error iff the goroutine of some stage ended in `Error` -/

def ErrInv (σ : St) : Prop := σ.gerr = true ↔ ∃ s, σ.g s = .fin ∧ σ.status s = .error

/-- the error flag stays up, and goes up only as a goroutine ends with an error -/
theorem step_gerr {c σ} (a : Act) (h : Inv c σ) :
    (σ.gerr = true → (step c σ a).gerr = true) ∧
    ((step c σ a).gerr = true →
      σ.gerr = true ∨ ∃ s, (step c σ a).g s = .fin ∧ (step c σ a).status s = .error) := by
  cases a with
  | post s =>
    simp only [step]; split
    · split
      · exact ⟨id, .inl⟩
      · exact ⟨fun _ => rfl, fun _ => .inr ⟨s, upd_same .., h.g_after s ‹_›⟩⟩
    · exact ⟨id, .inl⟩
  | _ =>
    simp only [step]; repeat' split
    all_goals exact ⟨id, .inl⟩

theorem errInv_step (c : Cfg) (σ : St) (a : Act) (hi : Inv c σ) (h : ErrInv σ) :
    ErrInv (step c σ a) := by
  have hm := step_move a hi
  have hg := step_gerr a hi
  constructor
  · intro hg'
    rcases hg.2 hg' with h0 | h1
    · obtain ⟨s, hs⟩ := h.mp h0
      exact ⟨s, (hm s).failed_stays hs.1 hs.2⟩
    · exact h1
  · rintro ⟨s, hs⟩
    rcases (hm s).failed hs.1 hs.2 with h0 | h1
    · exact hg.1 (h.mpr ⟨s, h0⟩)
    · exact h1

theorem errInv_run (c : Cfg) (as : List Act) : ErrInv (run c init as) :=
  (List.foldlRecOn (motive := fun σ => Inv c σ ∧ ErrInv σ) as (step c)
    ⟨inv_init c, by simp [ErrInv, init]⟩
    fun σ h a _ => ⟨inv_step c σ a h.1, errInv_step c σ a h.1 h.2⟩).2

end Sched
