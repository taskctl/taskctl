import TaskctlVerif.Model.Layers
/-!
# What a lookup finds after each operation of `Model/Layers.lean` (used by C08, C09, C10, Proofs/Derived)

Every operation on environments is an `Option.or` of lookups: a precedence chain is read off by
unfolding the operations and reassociating.
-/
namespace Layers
variable {β : Type}

/-- one step of a lookup, as a choice on the equality of the names (core has the `match` on `==`) -/
theorem lookup_cons_ite (a : String) (b : β) (e : Env β) (k : String) :
    ((a, b) :: e).lookup k = if k = a then some b else e.lookup k := by
  rw [List.lookup_cons]
  by_cases h : k = a
  · simp [h]
  · simp [h, beq_false_of_ne h]

/-- filtering an association list on its keys filters its lookups -/
theorem lookup_filter_key (q : String → Bool) (e : Env β) (k : String) :
    (e.filter fun p => q p.1).lookup k = if q k then e.lookup k else none := by
  induction e with
  | nil => simp
  | cons p e ih =>
    obtain ⟨a, b⟩ := p
    by_cases hk : k = a
    · subst hk
      cases hq : q k <;> simp [hq, ih]
    · cases hq : q a <;> simp [lookup_cons_ite, hk, hq, ih]

theorem get_merge (lo hi : Env β) (k : String) : get (merge lo hi) k = (get hi k).or (get lo k) :=
  List.lookup_append

theorem get_withKey (e : Env β) (k k' : String) (v : β) :
    get (withKey e k' v) k = (if k = k' then some v else none).or (get e k) := by
  unfold get withKey
  rw [lookup_cons_ite]
  split <;> rfl

/-- the process sees the job's value for every name the job defines, the inherited one otherwise -/
theorem get_procEnv (parent job : Env β) (k : String) :
    get (procEnv parent job) k = (get job k).or (get parent k) := by
  simp only [get, procEnv, List.lookup_append, lookup_filter_key fun k => (job.lookup k).isNone]
  cases job.lookup k <;> rfl

end Layers
