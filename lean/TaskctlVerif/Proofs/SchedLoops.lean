import TaskctlVerif.Proofs.Sched
import TaskctlVerif.Model.SchedLoops
/-!
# Several loops over one graph: the invariant

As in `Proofs/Sched.lean`: `lstep_move` shows that every action moves at most one stage along the life
cycle of `Proofs/Stage.lean`, the stage-wise clauses of `LInv` are read off it, and `lstep_chk` follows
what `LInv` says of each loop's program counter.
-/
namespace SchedLoops
open Sched

def LSat (c : Cfg) (σ : LSt) (d : Nat) : Prop :=
  σ.status d = .done ∨ σ.status d = .skipped ∨ (σ.status d = .error ∧ c.allow d = true)

structure LInv (c : Cfg) (σ : LSt) : Prop where
  g_none  : ∀ s, σ.g s = .none → σ.status s = .waiting ∨ σ.status s = .skipped ∨ σ.status s = .canceled ∨ σ.status s = .error
  g_run   : ∀ s, σ.g s = .inRun → σ.status s = .running
  run_g   : ∀ s, σ.status s = .running → σ.g s = .inRun
  g_after : ∀ s, σ.g s = .afterErr → σ.status s = .error
  g_fin   : ∀ s, σ.g s = .fin → σ.status s = .done ∨ σ.status s = .error
  started : ∀ s, σ.g s ≠ .none → ∀ d ∈ c.deps s, LSat c σ d
  skip_c  : ∀ s, σ.status s = .skipped → c.cond s = .fails
  err_c   : ∀ s, σ.g s = .none → σ.status s = .error → c.cond s = .err
  chk     : ∀ l s rest ready, σ.pc l = .check s rest ready →
              (c.cond s ≠ .fails ∧ c.cond s ≠ .err) ∧ (∀ d ∈ rest, d ∈ c.deps s) ∧
              (ready = true → ∀ d ∈ c.deps s, d ∈ rest ∨ LSat c σ d)

theorem linv_init (c : Cfg) : LInv c linit := by
  constructor <;> simp [linit]

def LRespects (okf : Nat → Bool) : LAct → Prop
  | .ret s b => b = okf s
  | _ => True

variable {c : Cfg} {σ : LSt}

theorem LInv.coh (h : LInv c σ) (s : Nat) : Coh (σ.status s) (σ.g s) :=
  ⟨h.g_none s, h.g_run s, h.run_g s, h.g_after s, h.g_fin s⟩

/-- the loop an action belongs to -/
def LAct.loop? : LAct → Option Nat
  | .visit l _ | .read l | .decide l => some l
  | _ => none

/-- what holds of action `a` taken in state `σ` -/
def LAt (c : Cfg) (σ : LSt) (a : LAct) : Obs → Prop
  | .loop pc => ∃ l, a.loop? = some l ∧ σ.pc l = pc
  | .ret s ok => a = .ret s ok
  | .flag => (lstep c σ a).gerr = true

/-- A loop that finds a dependency of `s` unsatisfied is not too late to cancel `s`: had another
loop started `s`, all dependencies would be satisfied; and an examined stage is neither skipped nor
stopped by its condition. -/
theorem LInv.can_cancel (h : LInv c σ) {l s d rest ready} (hpc : σ.pc l = .check s (d :: rest) ready)
    (hd : ¬ LSat c σ d) : σ.g s = .none ∧ (σ.status s = .waiting ∨ σ.status s = .canceled) := by
  have hc := h.chk _ _ _ _ hpc
  have hg : σ.g s = .none := Classical.byContradiction fun hg =>
    hd (h.started s hg d (hc.2.1 d List.mem_cons_self))
  refine ⟨hg, ?_⟩
  rcases h.g_none s hg with hw | hs | hk | he
  · exact .inl hw
  · exact absurd (h.skip_c s hs) hc.1.1
  · exact .inr hk
  · exact absurd (h.err_c s hg he) hc.1.2

/-- every action moves at most one stage, one step along its life cycle -/
theorem lstep_move (a : LAct) (h : LInv c σ) (x : Nat) :
    Move c (LAt c σ a) σ.status x (σ.status x) (σ.g x) (σ.starts x)
      ((lstep c σ a).status x) ((lstep c σ a).g x) ((lstep c σ a).starts x) := by
  cases a with
  | visit l s =>
    simp only [lstep]; split
    · split
      · rename_i hp hw
        have hn := (h.coh s).none (.inl hw)
        split
        · exact Move.write_st hw hn (.skip ⟨l, rfl, hp⟩ ‹_›) x
        · exact Move.write_st hw hn (.cerr ⟨l, rfl, hp⟩ ‹_›) x
        · exact .stay
      · exact .stay
    · exact .stay
  | read l =>
    simp only [lstep]; split
    · rename_i s d rest ready hpc
      have cancel (hd : Bad c d (σ.status d)) :
          Move c (LAt c σ (.read l)) σ.status x (σ.status x) (σ.g x) (σ.starts x)
            (upd σ.status s .canceled x) (σ.g x) (σ.starts x) := by
        have := h.can_cancel hpc hd.not_ok
        exact Move.write_st rfl this.1 (.cancel this.2 ⟨l, rfl, hpc⟩ hd) x
      split
      · exact .stay
      · exact .stay
      · split
        · exact .stay
        · exact cancel (.inr ⟨‹_›, ‹_›⟩)
      · exact cancel (.inl ‹_›)
      · exact .stay
    · exact .stay
  | decide l =>
    simp only [lstep]; split
    · rename_i s ready hpc
      split
      · rename_i hr
        simp only [Bool.and_eq_true, beq_iff_eq] at hr
        have hn := (h.coh s).none (.inl hr.2)
        have hd d (hd : d ∈ c.deps s) : LSat c σ d :=
          ((h.chk _ _ _ _ hpc).2.2 hr.1 d hd).resolve_left List.not_mem_nil
        exact Move.write_all hr.2 hn (.start ⟨l, rfl, hpc⟩ hd) x
      · exact .stay
    · exact .stay
  | ret s ok =>
    simp only [lstep]; split
    · rename_i hg
      cases ok
      · exact Move.write (h.g_run s hg) hg (.fail (by rfl)) x
      · exact Move.write (h.g_run s hg) hg (.ok (by rfl)) x
    · exact .stay
  | post s =>
    simp only [lstep]; split
    · rename_i hg
      split
      · exact Move.write (h.g_after s hg) hg (.allow ‹_›) x
      · exact Move.write_g (h.g_after s hg) hg (.deny (by simp [LAt, lstep, *]) ‹_›) x
    · exact .stay
  | cancel => exact .stay

/-- what `LInv` knows of a loop at `pc` -/
def LChk (c : Cfg) (σ : LSt) : Pc → Prop
  | .idle => True
  | .check s rest ready => (c.cond s ≠ .fails ∧ c.cond s ≠ .err) ∧ (∀ d ∈ rest, d ∈ c.deps s) ∧
      (ready = true → ∀ d ∈ c.deps s, d ∈ rest ∨ LSat c σ d)

theorem LInv.chk_pc (h : LInv c σ) (l : Nat) : LChk c σ (σ.pc l) := by
  unfold LChk; split
  · trivial
  · exact h.chk l _ _ _ ‹_›

theorem LChk.mono {σ' : LSt} {p} (hm : ∀ d, LSat c σ d → LSat c σ' d) (h : LChk c σ p) : LChk c σ' p := by
  unfold LChk at *; split
  · trivial
  · exact ⟨h.1, h.2.1, fun hr d hd => (h.2.2 hr d hd).imp_right (hm d)⟩

/-- reading `d`: `ready` survives only if `d` is satisfied -/
theorem LChk.read {s d rest ready ready'} (h : LChk c σ (.check s (d :: rest) ready))
    (hr : ready' = true → ready = true ∧ LSat c σ d) : LChk c σ (.check s rest ready') :=
  ⟨h.1, fun x hx => h.2.1 x (List.mem_cons_of_mem _ hx), fun hr' x hx =>
    read_dep (hr hr').2 (h.2.2 (hr hr').1 x hx)⟩

theorem LChk.upd {p} (l : Nat) (hp : LChk c σ p) (h : ∀ l', LChk c σ (σ.pc l')) (l' : Nat) :
    LChk c σ (upd σ.pc l p l') := by
  rw [upd_apply]; split
  · exact hp
  · exact h l'

/-- the loops' part of the invariant, before the satisfied dependencies are carried over -/
theorem lstep_chk (a : LAct) (h : LInv c σ) : ∀ l', LChk c σ ((lstep c σ a).pc l') := by
  have hc := h.chk_pc
  cases a with
  | visit l s =>
    simp only [lstep]; split
    · split
      · split
        · exact hc
        · exact hc
        · exact LChk.upd l ⟨⟨‹_›, ‹_›⟩, fun _ hd => hd, fun _ _ hd => .inl hd⟩ hc
      · exact hc
    · exact hc
  | read l =>
    simp only [lstep]; split
    · rename_i s d rest ready hpc
      have key ready' (hr : ready' = true → ready = true ∧ LSat c σ d) :=
        LChk.upd l ((hpc ▸ hc l).read hr) hc
      split
      · exact key _ fun hr => ⟨hr, .inl ‹_›⟩
      · exact key _ fun hr => ⟨hr, .inr (.inl ‹_›)⟩
      · split
        · exact key _ fun hr => ⟨hr, .inr (.inr ⟨‹_›, ‹_›⟩)⟩
        · exact key _ nofun
      · exact key _ nofun
      · exact key _ nofun
    · exact hc
  | decide l =>
    simp only [lstep]; split
    · split
      · exact LChk.upd l trivial hc
      · exact LChk.upd l trivial hc
    · exact hc
  | ret s ok =>
    simp only [lstep]; split
    · split <;> exact hc
    · exact hc
  | post s =>
    simp only [lstep]; split
    · split <;> exact hc
    · exact hc
  | cancel => exact hc

theorem linv_step (c : Cfg) (σ : LSt) (a : LAct) (h : LInv c σ) : LInv c (lstep c σ a) := by
  have hm := lstep_move a h
  have ⟨k, ks⟩ := moves_stages hm h.coh h.started
  exact ⟨fun s => (k s).1, fun s => (k s).2.1, fun s => (k s).2.2.1, fun s => (k s).2.2.2.1,
    fun s => (k s).2.2.2.2, ks,
    fun s hs => ((hm s).skipped hs).elim (h.skip_c s) id,
    fun s hg hs => ((hm s).cerror hg hs).elim (fun hh => h.err_c s hh.1 hh.2) id,
    fun l s rest ready hpc => by
      have := (lstep_chk a h l).mono fun d => (hm d).ok_mono
      rwa [hpc] at this⟩

theorem linv_run (c : Cfg) (as : List LAct) : LInv c (lrun c linit as) :=
  List.foldlRecOn as (lstep c) (linv_init c) fun σ h a _ => linv_step c σ a h

end SchedLoops
