import TaskctlVerif.Proofs.SchedLoops
/-!
# Several loops over one graph: agreement with the final-status equations (C02)

The invariant `Agree` of `Proofs/Sched.lean`, carried over to `Model/SchedLoops.lean`: wherever a stage
is decided, any number of loops working on the graph at once leave it with the status the equations
`IsFinal` prescribe.  (The clauses about the loop's program counter are already part of `LInv`.)
Core Lean only.
-/
namespace SchedLoops
open Sched

structure LAgree (c : Cfg) (okf : Nat → Bool) (f : Nat → Status) (σ : LSt) : Prop where
  started  : ∀ s, σ.g s ≠ .none → f s = outcome c okf s
  skipped  : ∀ s, σ.status s = .skipped → f s = .skipped
  canceled : ∀ s, σ.status s = .canceled → f s = .canceled
  fin      : ∀ s, σ.g s = .fin → σ.status s = f s
  after    : ∀ s, σ.g s = .afterErr → okf s = false
  err_run  : ∀ s, σ.status s = .error → σ.g s ≠ .none

theorem lagree_init (c : Cfg) (okf f) : LAgree c okf f linit := by
  constructor <;> simp [linit]

theorem LAgree.agr {c okf f σ} (h : LAgree c okf f σ) (s : Nat) : Agr c okf f s (σ.status s) (σ.g s) :=
  ⟨h.started s, h.skipped s, h.canceled s, h.fin s, h.after s, h.err_run s⟩

theorem lagree_step (c okf f σ) (a : LAct) (hf : IsFinal c okf f) (hne : ∀ s, c.cond s ≠ .err)
    (ha : LRespects okf a) (hi : LInv c σ) (h : LAgree c okf f σ) : LAgree c okf f (lstep c σ a) := by
  have k s := (lstep_move a hi s).agr (fun _ _ => hf) (fun _ => hne s)
    (fun _ _ ⟨_, _, hpc⟩ => ⟨(hi.chk _ _ _ _ hpc).1.1, (hi.chk _ _ _ _ hpc).2.1⟩)
    (fun ok (e : a = .ret s ok) => by subst e; exact ha)
    (fun d => ⟨hi.coh d, h.agr d⟩) (h.agr s)
  exact ⟨fun s => (k s).1, fun s => (k s).2.1, fun s => (k s).2.2.1, fun s => (k s).2.2.2.1,
    fun s => (k s).2.2.2.2.1, fun s => (k s).2.2.2.2.2⟩

theorem lagree_run (c okf f) (hf : IsFinal c okf f) (hne : ∀ s, c.cond s ≠ .err) (as : List LAct)
    (has : ∀ a ∈ as, LRespects okf a) : LInv c (lrun c linit as) ∧ LAgree c okf f (lrun c linit as) :=
  List.foldlRecOn (motive := fun σ => LInv c σ ∧ LAgree c okf f σ) as (lstep c)
    ⟨linv_init c, lagree_init c okf f⟩
    fun σ h a ha => ⟨linv_step c σ a h.1, lagree_step c okf f σ a hf hne (has a ha) h.1 h.2⟩

end SchedLoops
