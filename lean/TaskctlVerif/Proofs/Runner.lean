import TaskctlVerif.Model.Runner
/-!
# Lemmas about the task-run model (`Model/Runner.lean`), used by C06, C07, C10, C11, C12, C13

The loops `runBefore` and `execute` get the same three facts each: what the loop does on a list
whose front part lets it continue (`_append`), when it reports a failure, and that its tokens are a
sub-list of the tokens of its input, in order (`_sublist`; also for `runAfter`, which never stops).
`body_eq` puts the loops together.  The last part is about `runTask` as a whole: what it is in each
situation of the condition (`runTask_cases`), the run that ends at a job (`runTask_stop`), the run
that no job ends (`runTask_no_stop`), and that the trace keeps the canonical order
(`trace_sublist_canon`).
-/
namespace Runner

theorem ok_iff {r : CmdResult} : r.ok = true ↔ r = .exit 0#8 := by
  cases r <;> simp [CmdResult.ok]

theorem ok_began {r : CmdResult} (h : r.ok = true) : r.began = true := by
  rw [ok_iff.mp h]; rfl

/-- the token of job `(variation, command)` -/
def cmdTok (p : Nat × Nat) : Tok := Tok.cmd p.1 p.2

/-- which jobs make the task errored: any failure without allow_failure; with allow_failure only
an error that is not an exit status (timeout, cancellation, unrenderable command) -/
def stops (allow : Bool) (r : CmdResult) : Bool :=
  match r with
  | .exit n => !(n == 0#8) && !allow
  | _ => true

theorem stops_of_ok (allow : Bool) {r : CmdResult} (h : r.ok = true) : stops allow r = false := by
  rw [ok_iff.mp h]; rfl

theorem stops_of_exit_allowed {allow : Bool} {r : CmdResult} (ha : allow = true)
    (hr : ∃ n, r = .exit n) : stops allow r = false := by
  obtain ⟨n, rfl⟩ := hr
  simp [stops, ha]

theorem stops_without_allow (r : CmdResult) : stops false r = !r.ok := by
  cases r <;> simp [stops, CmdResult.ok]

/-- an error that is not an exit status stops the task whether or not it allows failure -/
theorem stops_fault (allow : Bool) : stops allow .fault = true := rfl

/-- `t.ExitCode` after a command with result `r`: an exit status other than 0 overwrites it
(`t.ExitCode = int16(status)` in `execute`), whether or not the failure is allowed -/
def exitAfter (r : CmdResult) (ec : BitVec 16) : BitVec 16 :=
  match r with
  | .exit n => if n == 0#8 then ec else statusToExit n
  | _ => ec

/-- `int16(uint8 status)` keeps the value: no sign problem for statuses 128..255 -/
theorem statusToExit_toInt (n : BitVec 8) : (statusToExit n).toInt = n.toNat := by
  have h := n.isLt
  rw [statusToExit, BitVec.zeroExtend_eq_setWidth, BitVec.toInt_setWidth]
  exact Int.bmod_eq_of_le (by omega) (by omega)

/-- a command that may not have begun contributes its token or nothing -/
theorem ite_singleton_sublist {α : Type} (c : Prop) [Decidable c] (a : α) (l : List α) :
    (if c then [a] else []).Sublist (a :: l) := by
  split
  · exact (List.nil_sublist l).cons_cons a
  · exact List.nil_sublist _

/-! ## `execute` -/
section execute
variable (allow : Bool) (res : Nat → Nat → CmdResult)

/-- one step of `execute`, in terms of `stops` -/
theorem execute_cons (p : Nat × Nat) (rest : List (Nat × Nat)) (ec : BitVec 16) :
    execute allow res (p :: rest) ec =
      if stops allow (res p.1 p.2) then
        (if (res p.1 p.2).began then [cmdTok p] else [], true, exitAfter (res p.1 p.2) ec)
      else
        (cmdTok p :: (execute allow res rest (exitAfter (res p.1 p.2) ec)).1,
          (execute allow res rest (exitAfter (res p.1 p.2) ec)).2) := by
  obtain ⟨v, j⟩ := p
  simp only [execute]
  cases res v j with
  | exit n =>
    by_cases hn : n = 0#8
    · subst hn; rfl
    · simp only [stops, exitAfter, beq_false_of_ne hn]; cases allow <;> rfl
  | fault => rfl
  | norender => rfl

/-- jobs that do not stop the task all run, and execution continues with the rest -/
theorem execute_append (pre rest : List (Nat × Nat)) (ec : BitVec 16)
    (h : ∀ p ∈ pre, stops allow (res p.1 p.2) = false) :
    execute allow res (pre ++ rest) ec =
      (pre.map cmdTok ++ (execute allow res rest (execute allow res pre ec).2.2).1,
        (execute allow res rest (execute allow res pre ec).2.2).2) := by
  induction pre generalizing ec with
  | nil => rfl
  | cons p pre ih =>
    rw [List.forall_mem_cons] at h
    simp [execute_cons, h.1, ih _ h.2]

theorem execute_errored (js : List (Nat × Nat)) (ec : BitVec 16) :
    (execute allow res js ec).2.1 = js.any (fun p => stops allow (res p.1 p.2)) := by
  induction js generalizing ec with
  | nil => rfl
  | cons p js ih => cases h : stops allow (res p.1 p.2) <;> simp [execute_cons, h, ih]

theorem execute_sublist (js : List (Nat × Nat)) (ec : BitVec 16) :
    (execute allow res js ec).1.Sublist (js.map cmdTok) := by
  induction js generalizing ec with
  | nil => exact .slnil
  | cons p js ih =>
    rw [execute_cons]
    split
    · exact ite_singleton_sublist ..
    · exact (ih _).cons_cons _

end execute

/-! ## `runBefore` and `runAfter` -/

/-- successful `before` commands all run, and the loop continues with the rest -/
theorem runBefore_append (i : Nat) (pre rest : List CmdResult) (h : ∀ r ∈ pre, r.ok = true) :
    runBefore i (pre ++ rest) =
      ((List.range' i pre.length).map Tok.before ++ (runBefore (i + pre.length) rest).1,
        (runBefore (i + pre.length) rest).2) := by
  induction pre generalizing i with
  | nil => rfl
  | cons r pre ih =>
    rw [List.forall_mem_cons] at h
    simp [runBefore, h.1, ok_began h.1, ih _ h.2, List.range'_succ, Nat.add_assoc, Nat.add_comm 1]

theorem runBefore_failed (i : Nat) (bs : List CmdResult) :
    (runBefore i bs).2 = bs.any (fun r => !r.ok) := by
  induction bs generalizing i with
  | nil => rfl
  | cons r bs ih => cases hr : r.ok <;> simp [runBefore, hr, ih]

theorem runBefore_sublist (i : Nat) (bs : List CmdResult) :
    (runBefore i bs).1.Sublist ((List.range' i bs.length).map Tok.before) := by
  induction bs generalizing i with
  | nil => exact .slnil
  | cons r bs ih =>
    rw [List.length_cons, List.range'_succ, List.map_cons]
    cases hr : r.ok
    · simp only [runBefore, hr, Bool.false_eq_true, if_false]
      exact ite_singleton_sublist ..
    · simp only [runBefore, hr, ok_began hr, if_true]
      exact (ih _).cons_cons _

theorem runAfter_sublist (i : Nat) (as : List CmdResult) :
    (runAfter i as).Sublist ((List.range' i as.length).map Tok.after) := by
  induction as generalizing i with
  | nil => exact .slnil
  | cons r as ih =>
    rw [runAfter, List.length_cons, List.range'_succ, List.map_cons]
    split
    · exact (ih _).cons_cons _
    · exact (ih _).cons _

/-! ## the two loops together -/

/-- `runTask.body` as one record, given what its two loops return -/
theorem body_eq (t : TaskSpec) (pre : List Tok) {btr ctr : List Tok} {bfail errored : Bool}
    {ec : BitVec 16} (hb : runBefore 0 t.before = (btr, bfail))
    (he : execute t.allow t.res (jobs t) t.initExit = (ctr, errored, ec)) :
    runTask.body t pre =
      { trace := pre ++ btr ++
          if bfail then [] else ctr ++ if errored then [] else runAfter 0 t.after
        err := bfail || errored
        errored := !bfail && errored
        skipped := false
        exitCode := if !bfail && errored then ec else 0 } := by
  simp only [runTask.body, hb, he]
  cases bfail <;> cases errored <;> simp [finalExit]

/-! ## the whole run -/

/-- there is no condition, or it holds: the task goes on to its commands -/
def condOk (t : TaskSpec) : Prop := t.cond = none ∨ t.cond = some (.exit 0#8)

/-- the condition's place in the canonical order.  It is `[cond]` for every condition there is,
also for one that could not even begin (`norender`): where the trace is meant, `runTask_cases`
says `if c.began` instead. -/
def condToks (t : TaskSpec) : List Tok := if t.cond.isSome then [Tok.cond] else []

/-- all `before` commands, in order: what ran of them when none failed -/
def beforeToks (t : TaskSpec) : List Tok := (List.range t.before.length).map Tok.before

theorem condToks_of_some {t : TaskSpec} {c : CmdResult} (h : t.cond = some c) :
    condToks t = [.cond] := by
  simp [condToks, h]

theorem runTask_of_condOk (t : TaskSpec) (h : condOk t) : runTask t = runTask.body t (condToks t) := by
  rcases h with h | h <;> simp [runTask, h, condToks, CmdResult.began]

theorem runTask_of_cond_exit (t : TaskSpec) {n : BitVec 8} (hc : t.cond = some (.exit n))
    (hn : n ≠ 0#8) : runTask t = ⟨[.cond], false, false, true, t.initExit⟩ := by
  simp [runTask, hc, hn, CmdResult.began]

/-- what `runTask` is in each of the three situations of the condition: none or holds, exits
non-zero (skipped), cannot be evaluated (error) -/
theorem runTask_cases (t : TaskSpec) :
    (condOk t ∧ runTask t = runTask.body t (condToks t)) ∨
    (¬condOk t ∧ ∃ n, t.cond = some (.exit n) ∧
      runTask t = ⟨[.cond], false, false, true, t.initExit⟩) ∨
    (¬condOk t ∧ ∃ c, (c = .fault ∨ c = .norender) ∧ t.cond = some c ∧
      runTask t = ⟨if c.began then [.cond] else [], true, false, false, 0⟩) := by
  cases hc : t.cond with
  | none => exact .inl ⟨.inl hc, runTask_of_condOk t (.inl hc)⟩
  | some c =>
    cases c with
    | exit n =>
      by_cases hn : n = 0#8
      · subst hn; exact .inl ⟨.inr hc, runTask_of_condOk t (.inr hc)⟩
      · exact .inr (.inl ⟨by simp [condOk, hc, hn], n, rfl, runTask_of_cond_exit t hc hn⟩)
    | fault =>
      exact .inr (.inr ⟨by simp [condOk, hc], _, .inl rfl, rfl, by simp [runTask, hc, finalExit]⟩)
    | norender =>
      exact .inr (.inr ⟨by simp [condOk, hc], _, .inr rfl, rfl, by simp [runTask, hc, finalExit]⟩)

theorem runBefore_of_ok (t : TaskSpec) (hb : ∀ r ∈ t.before, r.ok = true) :
    runBefore 0 t.before = (beforeToks t, false) := by
  simpa [runBefore, beforeToks, List.range_eq_range'] using runBefore_append 0 t.before [] hb

/-- **the run ends at the first job that stops it**: if the condition (if any) holds, every `before`
command succeeds, no job of `pre` stops the task and job `(v, j)` does, then exactly
`condition, before…, pre…, (v, j)` ran (the last only if it could be rendered) and the task is
errored; its exit code is that job's exit status if it has one. -/
theorem runTask_stop (t : TaskSpec) (pre post : List (Nat × Nat)) (v j : Nat) (hc : condOk t)
    (hb : ∀ r ∈ t.before, r.ok = true) (hjobs : jobs t = pre ++ (v, j) :: post)
    (hpre : ∀ p ∈ pre, stops t.allow (t.res p.1 p.2) = false)
    (hstop : stops t.allow (t.res v j) = true) :
    runTask t =
      { trace := condToks t ++ beforeToks t ++ pre.map cmdTok ++
          (if (t.res v j).began then [Tok.cmd v j] else [])
        err := true, errored := true, skipped := false
        exitCode := exitAfter (t.res v j) (execute t.allow t.res pre t.initExit).2.2 } := by
  have he := execute_append t.allow t.res pre ((v, j) :: post) t.initExit hpre
  rw [execute_cons, if_pos hstop, ← hjobs] at he
  rw [runTask_of_condOk t hc, body_eq t _ (runBefore_of_ok t hb) he]
  simp [cmdTok]

/-- **no job stops it**: every job runs (variation-major, in order), then every `after` command -/
theorem runTask_no_stop (t : TaskSpec) (hc : condOk t) (hb : ∀ r ∈ t.before, r.ok = true)
    (hns : ∀ p ∈ jobs t, stops t.allow (t.res p.1 p.2) = false) :
    runTask t =
      ⟨condToks t ++ beforeToks t ++ (jobs t).map cmdTok ++ runAfter 0 t.after, false, false, false, 0⟩ := by
  have he := execute_append t.allow t.res (jobs t) [] t.initExit hns
  rw [List.append_nil] at he
  rw [runTask_of_condOk t hc, body_eq t _ (runBefore_of_ok t hb) he]
  simp [execute]

theorem canon_eq (t : TaskSpec) : canon t = condToks t ++ beforeToks t ++ (jobs t).map cmdTok ++
    (List.range t.after.length).map Tok.after := rfl

/-- the commands that ran are a sub-list of the task's commands in their canonical order: each at
most once, none out of order -/
theorem trace_sublist_canon (t : TaskSpec) : (runTask t).trace.Sublist (canon t) := by
  rw [canon_eq, List.append_assoc]
  rcases runTask_cases t with ⟨_, e⟩ | ⟨_, n, hc, e⟩ | ⟨_, c, _, hc, e⟩ <;> rw [e]
  · rw [body_eq t _ rfl rfl, beforeToks, List.range_eq_range', List.range_eq_range']
    refine ((List.Sublist.refl _).append (runBefore_sublist 0 _)).append ?_
    split
    · exact List.nil_sublist _
    · refine (execute_sublist ..).append ?_
      split
      · exact List.nil_sublist _
      · exact runAfter_sublist 0 _
  · rw [condToks_of_some hc, List.append_assoc]
    exact List.sublist_append_left ..
  · rw [condToks_of_some hc, List.append_assoc]
    exact ite_singleton_sublist ..

end Runner
