import TaskctlVerif.Proofs.Output
import TaskctlVerif.Proofs.CockpitLocks
/-!
# C19 — output decoration never loses or mixes task output; format is presentation only

Model: `Model/Output.lean`, and `Model/CockpitLocks.lean` for the two locks of the cockpit (last section).
`strip` (ANSI removal, a regular expression) is a parameter; the statement *with* ANSI removal is proved under
the hypothesis that `strip` is the identity on the task's bytes — which is the case when the stream contains no escape introducer.  The general case
is **not** proved and is false of the implementation when a write boundary falls inside an escape
sequence (known finding `c19-ansi-split-by-write`; it cannot be repaired without buffering
unterminated output, which the existing suite forbids).
-/
namespace Out

/-- **raw output forwards a task's bytes unchanged and in order** -/
theorem C19_raw_identity (chunks : List Bytes) : (rawCalls chunks).flatten = chunks.flatten := rfl

/-- **nothing lost, duplicated or reordered, for every chunking** (modulo line terminators): the
concatenation of everything handed to the line writer equals the stream once CR and LF are removed
on both sides — for EVERY splitting of EVERY stream into write calls. -/
theorem C19_no_loss (chunks : List Bytes) :
    N ((chunks.flatMap tokens).flatten) = N chunks.flatten := by
  induction chunks with
  | nil => rfl
  | cons c cs ih => simp [List.flatMap_cons, N_append, N_tokens, ih]

/-- **prefixed output emits whole lines, each carrying exactly one task's name**: every sink call
is `prefix name ++ payload ++ CR LF` where the payload is (the ANSI-stripped form of) a piece of
that task's output containing no line feed -/
theorem C19_whole_lines (strip : Bytes → Bytes) (name : Bytes) (chunks : List Bytes) :
    ∀ c ∈ prefixedCalls strip name chunks,
      ∃ tok, LF ∉ tok ∧ tok ≠ [] ∧ c = prefixOf name ++ strip tok ++ [CR, LF] := by
  intro c hc
  obtain ⟨tok, htok, rfl⟩ := List.mem_map.mp hc
  obtain ⟨chunk, _, ht⟩ := List.mem_flatMap.mp htok
  exact ⟨tok, (of_mem_tokens ht).1, (of_mem_tokens ht).2, rfl⟩

/-- a call carries the prefix of a name exactly when it is a call of the task of that name: the
name ends at the first `ESC` after the five bytes that open the prefix -/
theorem prefixOf_prefix_lineCall_iff (strip : Bytes → Bytes) {n₁ n₂ : Bytes} (t₂ : Bytes)
    (h₁ : ESC ∉ n₁) (h₂ : ESC ∉ n₂) : prefixOf n₁ <+: lineCall strip n₂ t₂ ↔ n₁ = n₂ := by
  constructor
  · rintro ⟨r, hr⟩
    simp only [lineCall, prefixOf, List.cons_append, List.nil_append, List.cons.injEq, true_and,
      List.append_assoc] at hr
    exact (append_cons_inj_of_not_mem h₁ h₂ hr).1
  · rintro rfl
    exact ⟨strip t₂ ++ [CR, LF], (List.append_assoc ..).symm⟩

/-- the prefix identifies the task: a call of task `n₂` starts with the prefix of `n₁` only if the
names are equal — a call's task can be read off its bytes -/
theorem C19_prefix_identifies_task (strip : Bytes → Bytes) (n₁ n₂ t₂ : Bytes)
    (h₁ : ESC ∉ n₁) (h₂ : ESC ∉ n₂) (h : prefixOf n₁ <+: lineCall strip n₂ t₂) : n₁ = n₂ :=
  (prefixOf_prefix_lineCall_iff strip t₂ h₁ h₂).mp h

/-- in a sink log whose projection to each task is that task's call sequence, the calls that start
with the prefix of task `i` are those tagged `i` (that every entry is a call of the task it is
tagged with follows from the projections) -/
theorem carriers_eq_own (strip : Bytes → Bytes) (names : Nat → Bytes) (hESC : ∀ i, ESC ∉ names i)
    (hinj : ∀ i j, names i = names j → i = j) (chunksOf : Nat → List Bytes)
    (log : List (Nat × Bytes))
    (hlog : ∀ i, (log.filter (fun e => e.1 == i)).map (·.2) = prefixedCalls strip (names i) (chunksOf i))
    (i : Nat) :
    log.filter (fun e => (prefixOf (names i)).isPrefixOf e.2) = log.filter (fun e => e.1 == i) := by
  apply List.filter_congr
  intro e he
  have hown : e.2 ∈ prefixedCalls strip (names e.1) (chunksOf e.1) :=
    hlog e.1 ▸ List.mem_map.mpr ⟨e, List.mem_filter.mpr ⟨he, beq_self_eq_true _⟩, rfl⟩
  obtain ⟨tok, _, htok⟩ := List.mem_map.mp hown
  rw [← htok, Bool.eq_iff_iff, List.isPrefixOf_iff_prefix,
    prefixOf_prefix_lineCall_iff strip tok (hESC _) (hESC _), beq_iff_eq]
  exact ⟨fun h => hinj _ _ h.symm, fun h => h ▸ rfl⟩

/-- **nothing is attributed to another task, under any interleaving of concurrent tasks**: let the
sink log be any list of tagged calls whose projection to each task is that task's own call sequence
(every interleaving has this form).  Then, for every task, the calls that *carry its name* (start
with its prefix) are exactly its own, in order — so `C19_no_loss` applies per task. -/
theorem C19_no_mixing (strip : Bytes → Bytes) (names : Nat → Bytes) (hESC : ∀ i, ESC ∉ names i)
    (hinj : ∀ i j, names i = names j → i = j) (chunksOf : Nat → List Bytes)
    (log : List (Nat × Bytes))
    (hlog : ∀ i, (log.filter (fun e => e.1 == i)).map (·.2) = prefixedCalls strip (names i) (chunksOf i))
    (hwf : ∀ e ∈ log, ∃ tok, e.2 = lineCall strip (names e.1) tok) (i : Nat) :
    (log.filter (fun e => (prefixOf (names i)).isPrefixOf e.2)).map (·.2)
      = prefixedCalls strip (names i) (chunksOf i) := by
  rw [carriers_eq_own strip names hESC hinj chunksOf log hlog i, hlog i]

/-- **the full statement, with ANSI removal, for streams on which `strip` acts as the identity**
(no escape introducer in the stream): removing prefixes, line terminators and ANSI sequences from
what was emitted for a task yields exactly its output with line terminators and ANSI sequences
removed. -/
theorem C19_ansi_partial (strip : Bytes → Bytes) (chunks : List Bytes)
    (hid : ∀ tok ∈ chunks.flatMap tokens, strip tok = tok) (hid' : strip chunks.flatten = chunks.flatten) :
    N (((chunks.flatMap tokens).map strip).flatten) = N (strip chunks.flatten) := by
  rw [List.map_congr_left hid, List.map_id', hid', C19_no_loss]

/-- **no task outcome makes the cockpit crash**: `remove` is safe for any sequence of `add`/`remove`,
including `remove` of a task that was never added (skipped, or failing before its output started) -/
theorem C19_cockpit_total (σ : Cockpit) (as : List CAct) : crun cstep σ as = .ok := by
  induction as generalizing σ with
  | nil => rfl
  | cons a as ih => cases a <;> simp [crun, cstep, ih]

/-- one action that is not `close`, from an open cockpit: the cockpit stays open, and printed ++ queued
grows by exactly what the action makes due -/
theorem cp_step_conserves (σ : CP) (a : CPAct) (hc : σ.closed = false) (ha : a ≠ .close) :
    (cpStep σ a).closed = false ∧ (cpStep σ a).spinner = nextSp σ.spinner a ∧
    (cpStep σ a).printed ++ (cpStep σ a).queue = σ.printed ++ σ.queue ++ dueOf σ.spinner a := by
  cases a with
  | add t => simp [cpStep, nextSp, dueOf, hc]
  | remove t =>
    cases hs : σ.spinner <;> simp [cpStep, nextSp, dueOf, hc, hs]
  | frame => simp [cpStep, nextSp, dueOf, hc]
  | close => exact absurd rfl ha

theorem cp_run_conserves (as : List CPAct) : ∀ σ, σ.closed = false → (∀ a ∈ as, a ≠ .close) →
    (cpRun σ as).closed = false ∧
    (cpRun σ as).printed ++ (cpRun σ as).queue = σ.printed ++ σ.queue ++ cpDue σ.spinner as := by
  induction as with
  | nil => intro σ hc _; exact ⟨hc, (List.append_nil _).symm⟩
  | cons a as ih =>
    intro σ hc h
    obtain ⟨h1, h2, h3⟩ := cp_step_conserves σ a hc (h a List.mem_cons_self)
    obtain ⟨i1, i2⟩ := ih (cpStep σ a) h1 (fun b hb => h b (List.mem_cons_of_mem _ hb))
    -- `cpRun σ (a :: as)` is `cpRun (cpStep σ a) as` by definition
    refine ⟨i1, i2.trans ?_⟩
    rw [h3, h2, cpDue, List.append_assoc]

/-- **C19 (cockpit, repaired)**: when the cockpit is closed at the end of the run, the "Finished" line
of every task that finished while the indicator existed has been printed exactly once, in the order
in which the tasks finished, and nothing is left queued — for every sequence of starts, finishes and
frames (no line depends on a frame happening to be drawn in time). -/
theorem C19_cockpit_delivers (as : List CPAct) (h : ∀ a ∈ as, a ≠ .close) :
    (cpRun cpInit (as ++ [.close])).printed = cpDue false as ∧
    (cpRun cpInit (as ++ [.close])).queue = [] := by
  obtain ⟨h1, h2⟩ := cp_run_conserves as cpInit rfl h
  have hrun : cpRun cpInit (as ++ [.close]) = cpStep (cpRun cpInit as) .close := List.foldl_append
  -- closing an open cockpit prints what is queued
  simp only [hrun, cpStep, h1]
  exact ⟨h2, rfl⟩

example : (cpRun cpInit [.remove 7, .add 1, .add 2, .remove 2, .frame, .remove 1, .close]).printed = [2, 1] := by decide
example : cpDue false [.remove 7, .add 1, .add 2, .remove 2, .frame, .remove 1] = [2, 1] := by decide

/-- regression witness for defect D11 (fixed) -/
theorem C19_witness_old_cockpit_skipped : crun cstepOld ⟨false, []⟩ [.remove 0] = .panic := by decide

/-! ## Non-vacuity -/
example : tokens [97, 13, 10, 98, 10, 10, 99] = [[97], [98], [99]] := by decide
example : (prefixedCalls id [119] [[97, 10, 98], [99, 10]]).length = 3 := by decide

end Out

/-! ## "no task outcome makes the output layer hang": the two locks of the cockpit -/
namespace CockpitLocks

/-- a thread that has nothing left to do (the redraw goroutine never ends) -/
def finished (σ : St) : Owner → Prop
  | .redraw => False
  | .closer => σ.closer = .done
  | .adder => σ.adder = .done
  | .fin i => σ.fin i = .done

/-- where a thread holds `B` it asks for no lock -/
theorem holdsB_moves {σ : St} {o : Owner} (h : holdsB σ o) : (next σ o).isSome = true := by
  cases o <;> simp only [holdsB] at h <;> simp [next, h]

/-- with `B` free: whoever holds `S` moves (it asks for `B` at most), and with `S` free as well everybody moves who has
something left to do -/
theorem free_moves {σ : St} {o : Owner} (hb : σ.b = none) (h : holdsS σ o ∨ σ.s = none ∧ ¬finished σ o) :
    (next σ o).isSome = true := by
  cases o <;> simp only [next] <;> split <;> simp_all [holdsS, finished]

/-- wherever lock and positions agree, some thread can move as long as an add, a remove, a wait or the closing goroutine
has something left to do: the holder of `B`; with `B` free the holder of `S`; with both free whoever is not finished -/
theorem inv_can_move {σ : St} (h : Inv σ) {n : Nat} (hp : pending σ n) : ∃ o, (next σ o).isSome = true := by
  have ⟨hs, hb⟩ := (inv_iff σ).mp h
  cases hb' : σ.b with
  | some o => exact ⟨o, holdsB_moves ((hb o).mp hb')⟩
  | none =>
    cases hs' : σ.s with
    | some o => exact ⟨o, free_moves hb' (.inl ((hs o).mp hs'))⟩
    | none =>
      have ⟨o, ho⟩ : ∃ o, ¬finished σ o := by
        rcases hp with h | h | ⟨i, _, h⟩
        · exact ⟨.closer, h⟩
        · exact ⟨.adder, h⟩
        · exact ⟨.fin i, h⟩
      exact ⟨o, free_moves hb' (.inr ⟨hs', ho⟩)⟩

/-- **whoever holds the cockpit's lock can always take its next step** - it never waits for the spinner's lock (nor for
anything else) while holding it, in every state reachable under any interleaving of the redraw goroutine, any number
of adds / removes / waits, the first add and the closing goroutine -/
theorem C19_cockpit_lock_holder_moves (os : List Owner) (o : Owner) (h : (run init os).b = some o) :
    (next (run init os) o).isSome = true :=
  holdsB_moves ((((inv_iff _).mp (inv_run os init inv_init)).2 o).mp h)

/-- **No deadlock**: in every reachable state in which an add, a remove, a wait or the closing goroutine has not
finished, some thread can take a step. A task that finishes - whatever its outcome - while the indicator is being
redrawn is never stuck behind it, and neither is `Close`. -/
theorem C19_cockpit_no_deadlock (os : List Owner) (n : Nat) (hp : pending (run init os) n) :
    ∃ o, (next (run init os) o).isSome = true :=
  inv_can_move (inv_run os init inv_init) hp

/-- a finishing task needs the cockpit's lock only: with the redraw goroutine stopped anywhere in its erase (holding
the spinner's lock, the terminal not answering), a task that finishes goes through -/
theorem C19_finish_during_erase (σ : St) (i : Nat) (hr : σ.r = .erase ∨ σ.r = .wantB) (hb : σ.b = none)
    (hf : σ.fin i = .start) :
    ∃ σ₁ σ₂, next σ (.fin i) = some σ₁ ∧ next σ₁ (.fin i) = some σ₂ ∧ σ₂.fin i = .done ∧ σ₂.r = σ.r := by
  refine ⟨{ σ with b := some (.fin i), fin := upd σ.fin i .inB },
          { σ with b := none, fin := upd (upd σ.fin i .inB) i .done }, ?_, ?_, ?_, ?_⟩
  · simp [next, hf, hb]
  · simp [next, upd]
  · simp [upd]
  · rfl

/-- the seeded variant (a finished task prints / recolours through the spinner while it holds the cockpit's lock):
the redraw goroutine has erased and wants the cockpit's lock, the task holds it and wants the spinner's - neither moves -/
theorem C19_witness_finish_through_spinner_deadlocks :
    let σ := runBad ⟨none, none, .idle, .start⟩ [.redraw, .redraw, .fin 0]
    nextBad σ .redraw = none ∧ nextBad σ (.fin 0) = none ∧ σ.f ≠ .done := by
  decide

-- non-vacuity: a run in which a task finishes during a redraw and the layer is closed; everybody ends, the locks are free
example : let σ := run init [.adder, .adder, .adder, .adder, .redraw, .fin 0, .redraw, .fin 0, .redraw, .redraw, .redraw,
    .closer, .closer, .closer, .closer]
    σ.fin 0 = .done ∧ σ.closer = .done ∧ σ.adder = .done ∧ σ.s = none ∧ σ.b = none := by decide
example : pending (run init [.adder, .redraw]) 1 := Or.inl (by decide)

end CockpitLocks
