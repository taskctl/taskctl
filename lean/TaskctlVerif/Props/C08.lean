import TaskctlVerif.Proofs.Layers
/-!
# C08 — per-stage overrides stay with their stage

Model: `Model/Layers.lean` (`SS`, `step`): the shared task cell, per-execution copies, and what each
`Run` call received, under **every interleaving** of the micro-steps of any number of stages that
share the task (and of direct runs by others).
-/
namespace Layers
variable {β : Type}

structure Iso (ov : Nat → StageOv β) (t₀ : TaskCfg β) (σ : SS β) : Prop where
  cell   : σ.cell = t₀
  copy   : ∀ i c, σ.copy i = some c → c = t₀
  seen   : ∀ i x, σ.seen i = some x → x = layer t₀ (ov i)
  direct : ∀ x, σ.direct = some x → x = t₀

theorem iso_init (ov : Nat → StageOv β) (t₀ : TaskCfg β) : Iso ov t₀ (init t₀) := by
  constructor <;> simp [init]

/-- a property of the defined entries of a table survives writing an entry that has it -/
theorem upd_some {α} {P : Nat → α → Prop} {f : Nat → Option α} {k : Nat} {v : α}
    (hf : ∀ i x, f i = some x → P i x) (hv : P k v) : ∀ i x, upd f k (some v) i = some x → P i x := by
  intro i x h
  unfold upd at h
  split at h
  · cases h; subst i; exact hv
  · exact hf i x h

theorem iso_step (ov : Nat → StageOv β) (t₀ : TaskCfg β) (σ : SS β) (a : Act) (h : Iso ov t₀ σ) :
    Iso ov t₀ (step ov σ a) := by
  cases a with
  | copy i => exact { h with copy := upd_some h.copy h.cell }
  | run i =>
    simp only [step]
    split
    next c hc => exact { h with seen := upd_some h.seen (by rw [h.copy i c hc]) }
    next => exact h
  | writeback i => exact { h with }
  | direct => exact { h with direct := fun x hx => Option.some.inj hx ▸ h.cell }

/-- the invariant holds after every interleaving; it also says that every copy taken is the original task -/
theorem iso_run (ov : Nat → StageOv β) (t₀ : TaskCfg β) (as : List Act) : Iso ov t₀ (run ov (init t₀) as) :=
  List.foldlRecOn as (step ov) (iso_init ov t₀) fun σ h a _ => iso_step ov t₀ σ a h

/-- **C08 (isolation)**: for every set of stages sharing a task and every interleaving of their
executions with each other and with direct runs, what `Run` receives for stage `i` is a function of
the *original* task and of stage `i` only; the shared task keeps its own settings; a direct run sees
exactly the task's own settings. -/
theorem C08_isolation (ov : Nat → StageOv β) (t₀ : TaskCfg β) (as : List Act) :
    (run ov (init t₀) as).cell = t₀ ∧
    (∀ i x, (run ov (init t₀) as).seen i = some x → x = layer t₀ (ov i)) ∧
    (∀ x, (run ov (init t₀) as).direct = some x → x = t₀) :=
  have h := iso_run ov t₀ as
  ⟨h.cell, h.seen, h.direct⟩

/-- **layered over, not replacing**: a stage's value wins for the names it defines, every other
name of the task is kept — for environment and for variables alike; the stage dir wins if given -/
theorem C08_layered (t : TaskCfg β) (s : StageOv β) (k : String) :
    get (layer t s).env k = (get s.env k).or (get t.env k) ∧
    get (layer t s).vars k = (get s.vars k).or (get t.vars k) ∧
    (layer t s).dir = (if s.dir ≠ "" then s.dir else t.dir) :=
  ⟨get_merge _ _ k, get_merge _ _ k, rfl⟩

/-- a stage without overrides runs the task unchanged -/
theorem C08_no_override (t : TaskCfg β) : layer t { env := [], vars := [], dir := "" } = t := by
  simp [layer, merge]

/-! ## Regression witnesses for defect D4 (fixed) -/

def wTask : TaskCfg Nat := { env := [("A", 1)], vars := [("x", 5)], dir := "" }
def wOv : Nat → StageOv Nat := fun i =>
  if i = 0 then { env := [("B", 2)], vars := [], dir := "" } else { env := [], vars := [("y", 7)], dir := "" }

/-- stage 1 and a later direct run see stage 0's `B`; stage 1's variables are env ∪ stage
variables: the task's `x` is gone -/
theorem C08_witness_old_leak :
    ((runOld wOv (init wTask) [.run 0, .run 1, .direct]).seen 1).map (fun c => get c.env "B") = some (some 2) ∧
    ((runOld wOv (init wTask) [.run 0, .run 1, .direct]).direct).map (fun c => get c.env "B") = some (some 2) ∧
    ((runOld wOv (init wTask) [.run 0, .run 1, .direct]).seen 1).map (fun c => get c.vars "x") = some none := by
  decide

/-- … while the repaired protocol keeps them apart, in this and (by `C08_isolation`) every order -/
example : ((run wOv (init wTask) [.copy 0, .copy 1, .run 0, .run 1, .writeback 0, .direct]).seen 1).map
    (fun c => (get c.env "B", get c.vars "x", get c.vars "y")) = some (none, some 5, some 7) := by decide

end Layers
