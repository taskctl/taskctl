import TaskctlVerif.Proofs.SchedLoop
/-!
# C04 — stages with no dependency between them run concurrently

Model: `Model/Sched.lean`; `pass` is one iteration of the scheduler loop and consists of loop
actions only (`pass_only_loop_actions`): no `ret`/`post` — no task finishes during it.  So whatever
a pass starts, it starts *without waiting for any other stage to finish*.
-/
namespace Sched

/-- all dependencies satisfied, still waiting, and not excluded by its condition -/
def Eligible (c : Cfg) (σ : St) (s : Nat) : Prop :=
  σ.status s = .waiting ∧ c.cond s ≠ .fails ∧ c.cond s ≠ .err ∧ ∀ d ∈ c.deps s, Sat c σ d

/-- the task of `s` is inside `Run` -/
def Started (σ : St) (s : Nat) : Prop := σ.status s = .running ∧ σ.g s = .inRun

instance (σ : St) (s : Nat) : Decidable (Started σ s) := by unfold Started; infer_instance

/-- a pass is a run of loop actions only: no completion of any task is needed or used -/
theorem pass_only_loop_actions (c : Cfg) (σ : St) (order : List Nat) :
    pass c σ order = run c σ (order.flatMap (visitActs c)) ∧
      ∀ a ∈ order.flatMap (visitActs c), a.isLoop = true :=
  ⟨pass_eq_run c order σ, passActs_loop c order⟩

/-- what is inside `Run` stays there through a pass -/
theorem started_pass (c : Cfg) (order : List Nat) (σ : St) (hidle : σ.pc = .idle) (s : Nat)
    (hs : Started σ s) : Started (pass c σ order) s := by
  have := pass_frame c order σ hidle s (by rw [hs.1]; simp)
  exact ⟨this.1.trans hs.1, this.2.trans hs.2⟩

/-- one pass starts every stage of its order that is eligible, from any state with the loop between
two passes -/
theorem pass_starts (c : Cfg) (order : List Nat) (σ : St) (hidle : σ.pc = .idle) (s : Nat)
    (hs : s ∈ order) (he : Eligible c σ s) : Started (pass c σ order) s :=
  pass_examines (Q := fun τ => Started τ s) (R := fun τ => Eligible c τ s)
    (fun τ t hτ h => by
      have := visitFull_frame c τ t hτ s (.inr (by rw [h.1]; simp))
      exact ⟨this.1.trans h.1, this.2.trans h.2⟩)
    -- examining another stage leaves `s` eligible
    (fun τ t hτ hst he => ⟨(visitFull_frame c τ t hτ s (.inl hst.symm)).1.trans he.1, he.2.1, he.2.2.1,
      fun d hd => sat_visitFull c τ t hτ d (he.2.2.2 d hd)⟩)
    (fun τ hτ he => visitFull_starts c τ s hτ he.1 he.2.1 he.2.2.1 he.2.2.2)
    order σ hidle hs he

/-- **C04 (main)**: from any reachable state with the loop between two passes, ONE pass — during
which no task finishes — starts every stage of its order that is eligible; all of them are then
inside `Run` at the same time. -/
theorem C04_pass_starts_all (c : Cfg) (order : List Nat) : ∀ σ, Inv c σ → σ.pc = .idle →
    ∀ s ∈ order, Eligible c σ s → Started (pass c σ order) s :=
  fun σ _ hidle s hs he => pass_starts c order σ hidle s hs he

/-- the barrier reading: every set of simultaneously eligible stages is, after one pass, entirely
inside `Run` together with whatever was already running — so tasks that wait for each other to be
running can all proceed. -/
theorem C04_barrier (c : Cfg) (as : List Act) (order : List Nat) (E : List Nat)
    (hidle : (run c init as).pc = .idle)
    (hE : ∀ s ∈ E, s ∈ order ∧ Eligible c (run c init as) s) :
    ∀ s ∈ E, Started (pass c (run c init as) order) s :=
  fun s hs => pass_starts c order _ hidle s (hE s hs).1 (hE s hs).2

/-- what is already running keeps running through the pass (nothing is waited for, nothing is
stopped): the in-flight set after a pass contains the old one and every eligible stage -/
theorem C04_inflight_superset (c : Cfg) (as : List Act) (order : List Nat) (s : Nat)
    (hidle : (run c init as).pc = .idle)
    (h : Started (run c init as) s ∨ (s ∈ order ∧ Eligible c (run c init as) s)) :
    Started (pass c (run c init as) order) s := by
  rcases h with h | ⟨h1, h2⟩
  · exact started_pass c order _ hidle s h
  · exact pass_starts c order _ hidle s h1 h2

/-- satisfied dependencies stay satisfied under every action, so eligibility is only lost by being
started -/
theorem sat_stable (c : Cfg) (σ : St) (a : Act) (hi : Inv c σ) (d : Nat) (h : Sat c σ d) :
    Sat c (step c σ a) d :=
  (step_move a hi d).ok_mono h

/-! ## Non-vacuity: three independent stages, one pass, all three in `Run`, nothing has returned -/
def exCfg4 : Cfg := { deps := fun _ => [], allow := fun _ => false, cond := fun _ => .none }
example : Eligible exCfg4 init 0 ∧ Eligible exCfg4 init 1 ∧ Eligible exCfg4 init 2 := by
  simp [Eligible, init, exCfg4]
example : ∀ s ∈ [0, 1, 2], Started (pass exCfg4 init [0, 1, 2]) s := by decide

end Sched
