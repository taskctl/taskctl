import TaskctlVerif.Proofs.Sched
import TaskctlVerif.Model.Nested
import TaskctlVerif.Model.Tree
import TaskctlVerif.Proofs.SchedLoops
/-!
# C01 — a stage never starts before all of its dependencies have finished

Model: `Model/Sched.lean`.  Quantifiers discharged by the theorems: every dependency function
(acyclicity is not needed for safety), any number of stages, every assignment of outcome /
allow_failure / condition, every interleaving of the loop's individual status reads with the status
writes of every stage goroutine, every moment of the run (every prefix of every action list).
-/
namespace Sched

/-- **C01 (core)**: in every reachable state, every dependency of a stage whose task has been
started is *satisfied*: done, skipped by its condition, or failed with allow_failure. -/
theorem C01_deps_satisfied (c : Cfg) (as : List Act) (s d : Nat) (hd : d ∈ c.deps s)
    (hs : (run c init as).g s ≠ .none) : Sat c (run c init as) d :=
  (inv_run c as).started s hs d hd

/-- C01 (state form): a started stage has no dependency that is still waiting or running, and no
dependency's task is inside `Run`. -/
theorem C01_state (c : Cfg) (as : List Act) (s d : Nat) (hd : d ∈ c.deps s)
    (hs : (run c init as).g s ≠ .none) :
    (run c init as).status d ≠ .waiting ∧ (run c init as).status d ≠ .running ∧
      (run c init as).g d ≠ .inRun :=
  ((inv_run c as).coh d).of_ok ((inv_run c as).started s hs d hd)

/-- a started stage stays started -/
theorem started_stable (c : Cfg) (σ : St) (a : Act) (s : Nat) (h : σ.g s ≠ .none) :
    (step c σ a).g s ≠ .none := by
  cases a <;> simp only [step] <;> (repeat' split) <;> grind

theorem started_stable_run (c : Cfg) (as : List Act) (σ : St) (s : Nat) (h : σ.g s ≠ .none) :
    (run c σ as).g s ≠ .none :=
  List.foldlRecOn as (step c) h fun σ h a _ => started_stable c σ a s h

/-- **C01 (temporal form)**: once a stage has started (after the prefix `as₁`), at *every later
moment* of the run (any continuation `as₂`) each of its dependencies is still finished: it is
never waiting, never running, never inside `Run` again.  Hence every `Run` of a dependency lies
entirely before the start of the dependant, whatever the durations. -/
theorem C01_always (c : Cfg) (as₁ as₂ : List Act) (s d : Nat) (hd : d ∈ c.deps s)
    (hs : (run c init as₁).g s ≠ .none) :
    let σ := run c init (as₁ ++ as₂)
    σ.status d ≠ .waiting ∧ σ.status d ≠ .running ∧ σ.g d ≠ .inRun := by
  have h2 : (run c init (as₁ ++ as₂)).g s ≠ .none := by
    rw [run_append]; exact started_stable_run c as₂ _ s hs
  exact C01_state c (as₁ ++ as₂) s d hd h2

/-- the moment of the start itself: the `decide` action that starts `s` happens in a state in which
every dependency is already satisfied -/
theorem C01_at_start (c : Cfg) (as : List Act) (s d : Nat) (hd : d ∈ c.deps s)
    (h0 : (run c init as).g s = .none)
    (h1 : (step c (run c init as) .decide).g s ≠ .none) : Sat c (run c init as) d :=
  ((step_move .decide (inv_run c as) s).started h1).resolve_left (· h0) d hd

/-! ## Pipelines nested to any depth (`Model/Tree.lean`) -/

/-- which scheduler step a tree step is -/
theorem tstep_which (T : TCfg) (σ : TSt) (x : TAct) :
    tstep T σ x = σ ∨
    (tstep T σ x = tset σ x.p (step (T.cfg x.p) (σ x.p) x.a) ∧
      ∀ s ok, x.a = .ret s ok → T.pipe x.p s = false) ∨
    (∃ s ok, x.a = .ret s ok ∧ T.pipe x.p s = true ∧
      innerOver (T.n (s :: x.p)) (σ (s :: x.p)) = true ∧
      tstep T σ x = tset σ x.p (step (T.cfg x.p) (σ x.p) (.ret s (!(σ (s :: x.p)).gerr)))) := by
  unfold tstep
  split
  · split
    · rename_i s ok hxa
      split
      · rename_i hp
        split
        · rename_i hov
          exact .inr (.inr ⟨s, ok, hxa, hp, hov, rfl⟩)
        · exact .inl rfl
      · rename_i hp
        refine .inr (.inl ⟨by rw [hxa], fun s' ok' h => ?_⟩)
        rw [hxa] at h; cases h; simpa using hp
    · rename_i hnot
      refine .inr (.inl ⟨rfl, fun s' ok' h => ?_⟩)
      exact absurd h (hnot s' ok')
  · exact .inl rfl

/-- one step of the tree either changes nothing or is one scheduler step of exactly one pipeline,
whose enclosing stage (if any) is inside `Run` -/
theorem tstep_cases (T : TCfg) (σ : TSt) (x : TAct) :
    tstep T σ x = σ ∨
      (enclosingInRun σ x.p = true ∧ ∃ a, tstep T σ x = tset σ x.p (step (T.cfg x.p) (σ x.p) a)) := by
  by_cases hen : enclosingInRun σ x.p = true
  · rcases tstep_which T σ x with h | ⟨h, _⟩ | ⟨_, _, _, _, _, h⟩
    · exact .inl h
    · exact .inr ⟨hen, _, h⟩
    · exact .inr ⟨hen, _, h⟩
  · exact .inl (by simp [tstep, hen])

/-- whatever holds initially and is preserved by every scheduler step holds, at every moment, in
every pipeline of a tree of nested pipelines: a tree step is a scheduler step of one pipeline -/
theorem tree_transfer (T : TCfg) (P : Cfg → St → Prop) (h0 : ∀ c, P c init)
    (hstep : ∀ c σ a, P c σ → P c (step c σ a)) (xs : List TAct) (p : Path) :
    P (T.cfg p) (trun T tinit xs p) :=
  List.foldlRecOn (motive := fun σ : TSt => ∀ p, P (T.cfg p) (σ p)) xs (tstep T) (fun _ => h0 _)
    (fun σ h x _ q => by
      rcases tstep_cases T σ x with he | ⟨_, a, he⟩ <;> rw [he]
      · exact h q
      · unfold tset
        split
        · rename_i hq; subst hq; exact hstep _ _ a (h _)
        · exact h q) p

/-- the run of an included pipeline has not begun unless the stage that includes it has been started -/
def Gate (σ : TSt) : Prop := ∀ s q, σ (s :: q) = init ∨ (σ q).g s ≠ .none

theorem gate_run (T : TCfg) (xs : List TAct) : Gate (trun T tinit xs) :=
  List.foldlRecOn xs (tstep T) (fun _ _ => .inl rfl) fun σ h x _ s q => by
    rcases tstep_cases T σ x with he | ⟨hen, a, he⟩ <;> rw [he]
    · exact h s q
    · unfold tset
      by_cases h1 : s :: q = x.p
      · -- the included pipeline moved: the including stage is inside Run, and is not the same pipeline
        right
        have hq : q ≠ x.p := fun hq => List.cons_ne_self s q (h1.trans hq.symm)
        have : enclosingInRun σ (s :: q) = true := by rw [h1]; exact hen
        simp only [enclosingInRun, beq_iff_eq] at this
        simp [if_neg hq, this]
      · simp only [if_neg h1]
        by_cases h2 : q = x.p
        · simp only [if_pos h2]
          exact (h s q).imp id fun hg => by rw [← h2]; exact started_stable _ _ a s hg
        · simp only [if_neg h2]; exact h s q

/-- a pipeline whose run has begun lies below started stages all the way up -/
theorem enclosing_started {σ : TSt} (h : Gate σ) :
    ∀ (pre : Path) (s : Nat) (q : Path), σ (pre ++ s :: q) ≠ init → (σ q).g s ≠ .none
  | [], s, q, hne => (h s q).resolve_left hne
  | t :: pre, s, q, hne =>
    enclosing_started h pre s q fun hi =>
      (h t (pre ++ s :: q)).resolve_left hne (by rw [hi]; rfl)

/-- **C01 at every depth of nesting**: in every reachable state of a tree of pipelines, under every
interleaving of all the schedulers and all their goroutines, a stage `x` of the pipeline at `p`
whose task has been started has (1) each of its own dependencies satisfied, and (2) for *every*
enclosing level - every way of writing `p` as `pre ++ s :: q`, i.e. `p` lies inside the pipeline
run by stage `s` of `q` - each dependency of the enclosing stage `s` satisfied in the run of `q`. -/
theorem C01_tree (T : TCfg) (xs : List TAct) (p : Path) (x : Nat)
    (hx : (trun T tinit xs p).g x ≠ .none) :
    (∀ d ∈ (T.cfg p).deps x, Sat (T.cfg p) (trun T tinit xs p) d) ∧
    (∀ pre s q, p = pre ++ s :: q →
      ∀ d ∈ (T.cfg q).deps s, Sat (T.cfg q) (trun T tinit xs q) d) := by
  have hinv := fun p => tree_transfer T Inv inv_init inv_step xs p
  refine ⟨fun d hd => (hinv p).started x hx d hd, fun pre s q hp d hd => ?_⟩
  have hne : trun T tinit xs (pre ++ s :: q) ≠ init := by
    rw [← hp]; intro hi; rw [hi] at hx; exact hx rfl
  exact (hinv q).started s (enclosing_started (gate_run T xs) pre s q hne) d hd

/-- the including stage stays inside `Run` for as long as the included run is not over -/
theorem C01_tree_window (T : TCfg) (σ : TSt) (p : Path) (s : Nat) (ok : Bool)
    (hp : T.pipe p s = true) (h : innerOver (T.n (s :: p)) (σ (s :: p)) = false) :
    tstep T σ ⟨p, .ret s ok⟩ = σ := by
  simp [tstep, hp, h]

/-- nothing of an included pipeline happens while the including stage is not inside `Run` -/
theorem C01_tree_outside (T : TCfg) (σ : TSt) (s : Nat) (q : Path) (a : Act)
    (h : (σ q).g s ≠ .inRun) : tstep T σ ⟨s :: q, a⟩ = σ := by
  simp [tstep, enclosingInRun, h]

/-! ## Nested pipelines (`Model/Nested.lean`): the tree of depth one -/

/-- the product of an outer and an inner pipeline as a tree: the outer pipeline at `[]`, the inner one
at `[S]` -/
def asTree (co ci : Cfg) (S ni : Nat) : TCfg :=
  { cfg := fun p => if p = [] then co else ci, pipe := fun p s => p == [] && s == S, n := fun _ => ni }

def NSt.asTree (S : Nat) (σ : NSt) : TSt :=
  fun p => if p = [] then σ.o else if p = [S] then σ.i else init

def NAct.asTree (S : Nat) : NAct → TAct
  | .outer a => ⟨[], a⟩
  | .inner b => ⟨[S], b⟩

theorem tset_outer (S : Nat) (σ : NSt) (τ : St) :
    tset (σ.asTree S) [] τ = NSt.asTree S { σ with o := τ } := by
  funext p; simp only [tset, NSt.asTree]; split <;> rfl

theorem tset_inner (S : Nat) (σ : NSt) (τ : St) :
    tset (σ.asTree S) [S] τ = NSt.asTree S { σ with i := τ } := by
  funext p; simp only [tset, NSt.asTree]
  by_cases h : p = [S]
  · subst h; simp
  · simp [h]

theorem nstep_asTree (co ci : Cfg) (S ni : Nat) (σ : NSt) (a : NAct) :
    (nstep co ci S ni σ a).asTree S = tstep (asTree co ci S ni) (σ.asTree S) (a.asTree S) := by
  cases a with
  | outer a =>
    cases a <;> simp [nstep, tstep, NAct.asTree, enclosingInRun, asTree, tset_outer, NSt.asTree]
    rename_i s ok
    by_cases h : s = S
    · subst h; simp; split <;> rfl
    · simp [h]
  | inner b =>
    by_cases h : σ.o.g S = .inRun
    · cases b <;> simp [nstep, tstep, NAct.asTree, enclosingInRun, asTree, NSt.asTree, h, ← tset_inner]
    · simp [nstep, tstep, NAct.asTree, enclosingInRun, NSt.asTree, h]

/-- a run of the product is a run of the tree -/
theorem nrun_asTree (co ci : Cfg) (S ni : Nat) (as : List NAct) :
    (nrun co ci S ni ninit as).asTree S = trun (asTree co ci S ni) tinit (as.map (NAct.asTree S)) := by
  have h0 : ninit.asTree S = tinit := by funext p; simp [NSt.asTree, ninit, tinit]
  unfold nrun trun
  rw [List.foldl_map, ← h0]
  exact (List.foldl_hom (NSt.asTree S) (g₂ := fun τ a => tstep (asTree co ci S ni) τ (a.asTree S))
    fun σ a => (nstep_asTree co ci S ni σ a).symm).symm

/-- **C01 inside nested pipelines**: in every reachable state of an outer pipeline whose stage `S`
runs an inner pipeline, under every interleaving of the two schedulers and all their goroutines:
an inner stage `x` whose task has been started has (1) every one of its own dependencies
satisfied in the inner run, and (2) every dependency of the enclosing stage `S` satisfied in the
outer run — so a task inside a nested pipeline starts only after the dependencies declared at
every enclosing level have finished. -/
theorem C01_nested (co ci : Cfg) (S ni : Nat) (as : List NAct) (x : Nat)
    (hx : (nrun co ci S ni ninit as).i.g x ≠ .none) :
    (∀ d ∈ ci.deps x, Sat ci (nrun co ci S ni ninit as).i d) ∧
    (∀ d ∈ co.deps S, Sat co (nrun co ci S ni ninit as).o d) := by
  have ho : (nrun co ci S ni ninit as).asTree S [] = (nrun co ci S ni ninit as).o := by simp [NSt.asTree]
  have hi : (nrun co ci S ni ninit as).asTree S [S] = (nrun co ci S ni ninit as).i := by simp [NSt.asTree]
  have h := C01_tree (asTree co ci S ni) (as.map (NAct.asTree S)) [S] x
    (by rw [← nrun_asTree, hi]; exact hx)
  rw [← nrun_asTree, hi] at h
  refine ⟨by simpa [asTree] using h.1, ?_⟩
  have := h.2 [] S [] rfl
  rw [ho] at this
  simpa [asTree] using this

/-- the outer nested stage is still inside `Run` for as long as the inner run is not over: the
inner run lies inside the outer stage's window -/
theorem C01_nested_window (co ci : Cfg) (S ni : Nat) (σ : NSt) (ok : Bool)
    (h : innerOver ni σ.i = false) : nstep co ci S ni σ (.outer (.ret S ok)) = σ := by
  simp [nstep, h]

/-! ## Non-vacuity: a concrete run in which stage 1 (depending on 0) does start -/
def exCfg : Cfg := { deps := fun s => if s = 1 then [0] else [], allow := fun _ => false, cond := fun _ => .none }
def exRun : List Act := [.visit 0, .decide, .ret 0 true, .visit 1, .read, .decide]
example : (run exCfg init exRun).g 1 = .inRun ∧ (run exCfg init exRun).status 0 = .done := by decide
/-- and before 0 has finished, the same visit does not start 1 -/
example : (run exCfg init [.visit 0, .decide, .visit 1, .read, .decide]).g 1 = .none := by decide

-- nested: outer stage 1 (depending on 0) runs an inner pipeline; its inner stage 0 does start, and
-- inner actions attempted before the outer stage was started change nothing
def exNested : List NAct :=
  [.inner (.visit 0), .inner .decide,
   .outer (.visit 0), .outer .decide, .outer (.ret 0 true), .outer (.visit 1), .outer .read, .outer .decide,
   .inner (.visit 0), .inner .decide]
example : (nrun exCfg exCfg 1 2 ninit exNested).i.g 0 ≠ .none ∧
    (nrun exCfg exCfg 1 2 ninit (exNested.take 2)).i.g 0 = .none ∧
    (nrun exCfg exCfg 1 2 ninit exNested).o.g 1 = .inRun := by decide

-- three levels: stage 1 (depending on 0) of every pipeline runs a pipeline of the same shape; the
-- innermost stage 0 does start, and the same actions do nothing before the enclosing stages run
def exTree : TCfg := { cfg := fun _ => exCfg, pipe := fun p s => s == 1 && p.length < 2, n := fun _ => 2 }
def exTreeRun : List TAct :=
  (exRun.map (TAct.mk [])) ++ (exRun.map (TAct.mk [1])) ++ [⟨[1, 1], .visit 0⟩, ⟨[1, 1], .decide⟩]
example : (trun exTree tinit exTreeRun [1, 1]).g 0 = .inRun ∧
    (trun exTree tinit exTreeRun [1]).g 1 = .inRun ∧ (trun exTree tinit exTreeRun []).g 1 = .inRun ∧
    (trun exTree tinit (exTreeRun.drop 6) [1, 1]).g 0 = .none ∧
    (trun exTree tinit (exTreeRun.drop 6) [1]).g 1 = .none := by decide
-- the nested stage cannot return before the included run is over, and returns its result afterwards
example : (trun exTree tinit (exTreeRun ++ [⟨[1], .ret 1 true⟩]) [1]).g 1 = .inRun := by decide

end Sched

/-! ## Several loops over one graph (a pipeline included by several stages) - `Model/SchedLoops.lean` -/
namespace SchedLoops
open Sched

/-- **C01 with several loops over one graph**: however many `Schedule` loops examine the stages of a
pipeline at the same time (it is included by several stages that run together), under every
interleaving of their individual status reads, condition evaluations, `canceled` writes and
compare-and-swaps with each other and with the stage goroutines: a stage whose task has been started
has every dependency done, skipped, or failed with allow_failure - and none of them waiting, running
or inside `Run`. -/
theorem C01_loops (c : Cfg) (as : List LAct) (s d : Nat) (hd : d ∈ c.deps s)
    (hs : (lrun c linit as).g s ≠ .none) :
    LSat c (lrun c linit as) d ∧ (lrun c linit as).status d ≠ .waiting ∧
      (lrun c linit as).status d ≠ .running ∧ (lrun c linit as).g d ≠ .inRun :=
  have hsat := (linv_run c as).started s hs d hd
  ⟨hsat, ((linv_run c as).coh d).of_ok hsat⟩

/-- a loop never overwrites the status of a stage another loop has started: what a started stage's
dependencies were found to be stays true, so the `canceled` write of a slower loop cannot reach it -/
theorem C01_loops_running_kept (c : Cfg) (as : List LAct) (s : Nat)
    (h : (lrun c linit as).g s = .inRun) : (lrun c linit as).status s = .running :=
  (linv_run c as).g_run s h

-- two loops examine stage 1 (which depends on 0) at the same time; loop 0 starts it, the compare-and-swap of
-- loop 1 fails: one start
def exLoops : List LAct :=
  [.visit 0 0, .decide 0, .ret 0 true, .visit 0 1, .visit 1 1, .read 0, .read 1, .decide 0, .decide 1]
example : (lrun Sched.exCfg linit exLoops).g 1 = .inRun ∧ (lrun Sched.exCfg linit exLoops).starts 1 = 1 ∧
    (lrun Sched.exCfg linit exLoops).pc 1 = .idle := by decide

end SchedLoops

