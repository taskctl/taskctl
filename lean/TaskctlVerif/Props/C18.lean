import TaskctlVerif.Model.Refs
import TaskctlVerif.Props.C05
/-!
# C18 — a configuration that loads has no dangling references

Model: `Model/Refs.lean`.  `accept d = true ↔ WellFormed d` for **every** definition.
-/
namespace Refs
open Graph

/-- the declarative property of the statement (plus acyclicity of depends_on, which is C05).
`noSelfInclusion` is written in the shape of `accept`'s search, from every pipeline name; as every
edge of `inclusion d` leaves a pipeline name, it says that the inclusion relation has no cycle. -/
structure WellFormed (d : CfgDef) : Prop where
  stageRef   : ∀ p ∈ d.pipelines, ∀ s ∈ p.2,
                 (∀ t, s.task = some t → t ∈ d.tasks) ∧ (s.task = none → s.pipeline ∈ pipelineNames d)
  dependsOn  : ∀ p ∈ d.pipelines, ∀ s ∈ p.2, ∀ dep ∈ s.deps, dep ∈ p.2.map (·.name)
  uniqueName : ∀ p ∈ d.pipelines, (p.2.map (·.name)).Nodup
  depsAcyclic : ∀ p ∈ d.pipelines,
                 ¬ HasCycle (edgesOf (p.2.map fun s => ({ name := s.name, deps := s.deps } : Graph.Stage String)))
  watcherRef : ∀ t ∈ d.watchers, t ∈ d.tasks
  noSelfInclusion : ¬ ∃ p ∈ pipelineNames d, ∃ a, Reach (fromOf (inclusion d)) p a ∧ OnCycle (fromOf (inclusion d)) a

theorem noDupNames_iff (l : List String) : noDupNames l = true ↔ l.Nodup := by
  induction l with
  | nil => simp [noDupNames]
  | cons n rest ih => simp [noDupNames, ih, List.nodup_cons]

theorem stageOk_iff (d : CfgDef) (stages : List StageDef) (s : StageDef) :
    stageOk d stages s = true ↔
      ((∀ t, s.task = some t → t ∈ d.tasks) ∧ (s.task = none → s.pipeline ∈ pipelineNames d)) ∧
      ∀ dep ∈ s.deps, dep ∈ stages.map (·.name) := by
  rw [stageOk, Bool.and_eq_true]
  refine and_congr ?_ (by simp only [List.all_eq_true, List.contains_eq_mem, decide_eq_true_eq])
  -- the clause for the other kind of stage is vacuous
  cases s.task <;> simp

theorem pipelineOk_iff (d : CfgDef) (stages : List StageDef) :
    pipelineOk d stages = true ↔
      (stages.map (·.name)).Nodup ∧
      (∀ s ∈ stages, ((∀ t, s.task = some t → t ∈ d.tasks) ∧ (s.task = none → s.pipeline ∈ pipelineNames d)) ∧
        ∀ dep ∈ s.deps, dep ∈ stages.map (·.name)) ∧
      ¬ HasCycle (edgesOf (stages.map fun s => ({ name := s.name, deps := s.deps } : Graph.Stage String))) := by
  rw [pipelineOk, Bool.and_eq_true, Bool.and_eq_true, noDupNames_iff, List.all_eq_true, and_assoc,
    ← C05_iff, Option.isSome_iff_ne_none]
  simp only [stageOk_iff]

/-- **C18 (main)**: a configuration is accepted iff every stage refers to an existing task or
pipeline, every depends_on names a stage of the same pipeline, every watcher refers to an existing
task, stage names are unique within a pipeline, and no pipeline includes itself directly or through
other pipelines (and depends_on is acyclic, C05). -/
theorem C18_accept_iff (d : CfgDef) : accept d = true ↔ WellFormed d := by
  -- `Bool.not_eq_true'` with `← Bool.not_eq_true` turns `(!dfs …) = true` into `¬ dfs … = true`, where
  -- `dfs_fromOf_iff` applies
  simp only [accept, Bool.and_eq_true, List.all_eq_true, pipelineOk_iff, List.contains_eq_mem,
    decide_eq_true_eq, Bool.not_eq_true', ← Bool.not_eq_true, dfs_fromOf_iff]
  constructor
  · rintro ⟨⟨hp, hw⟩, hi⟩
    exact {
      stageRef := fun p hpm s hs => ((hp p hpm).2.1 s hs).1
      dependsOn := fun p hpm s hs => ((hp p hpm).2.1 s hs).2
      uniqueName := fun p hpm => (hp p hpm).1
      depsAcyclic := fun p hpm => (hp p hpm).2.2
      watcherRef := hw
      noSelfInclusion := fun ⟨p, hpm, hc⟩ => hi p hpm hc }
  · intro h
    exact ⟨⟨fun p hpm => ⟨h.uniqueName p hpm, fun s hs => ⟨h.stageRef p hpm s hs, h.dependsOn p hpm s hs⟩,
      h.depsAcyclic p hpm⟩, h.watcherRef⟩, fun p hpm hc => h.noSelfInclusion ⟨p, hpm, hc⟩⟩

/-- **running a pipeline of an accepted configuration never aborts because of a bad reference**:
every name the scheduler looks up in `checkStatus` (the depends_on of a stage, `C05_to_exact`) is a
stage of the same pipeline, so `Node(dep)` never fails and `logrus.Fatal` is unreachable. -/
theorem C18_no_fatal (d : CfgDef) (h : accept d = true) (p : String × List StageDef)
    (hp : p ∈ d.pipelines) (s : StageDef) (hs : s ∈ p.2) (dep : String) (hd : dep ∈ s.deps) :
    ∃ s' ∈ p.2, s'.name = dep :=
  List.mem_map.mp (((C18_accept_iff d).mp h).dependsOn p hp s hs dep hd)

/-- a pipeline that includes itself is rejected -/
theorem C18_self_inclusion_rejected (d : CfgDef) (p : String) (stages : List StageDef) (s : StageDef)
    (hp : (p, stages) ∈ d.pipelines) (hs : s ∈ stages) (ht : s.task = none) (hself : s.pipeline = p) :
    accept d = false := by
  refine Bool.eq_false_iff.mpr fun h => ((C18_accept_iff d).mp h).noSelfInclusion ?_
  have hedge : (p, p) ∈ inclusion d :=
    List.mem_flatMap.mpr ⟨(p, stages), hp, List.mem_filterMap.mpr ⟨s, hs, by simp [ht, hself]⟩⟩
  exact ⟨p, List.mem_map.mpr ⟨(p, stages), hp, rfl⟩, p, .refl p, p, mem_fromOf.mpr hedge, .refl p⟩

/-! ## Regression witnesses for defect D10 (fixed) and non-vacuity -/
def exGood : CfgDef :=
  { tasks := ["t0", "t1"],
    pipelines := [("p0", [⟨"b", some "t1", "", ["a"]⟩, ⟨"a", some "t0", "", []⟩, ⟨"inc", none, "p1", ["a"]⟩]),
                  ("p1", [⟨"x", some "t0", "", []⟩])],
    watchers := ["t1"] }
example : accept exGood = true := by decide
/-- dangling depends_on -/
example : accept { exGood with pipelines := [("p0", [⟨"b", some "t1", "", ["ghost"]⟩])] } = false := by decide
/-- inclusion cycle of length 2 -/
example : accept { exGood with pipelines := [("p0", [⟨"i", none, "p1", []⟩]), ("p1", [⟨"j", none, "p0", []⟩])] } = false := by
  decide

end Refs
