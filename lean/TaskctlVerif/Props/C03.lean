import TaskctlVerif.Proofs.SchedFair
import TaskctlVerif.Props.C02
import TaskctlVerif.Model.SchedMulti
import TaskctlVerif.Props.C01
import TaskctlVerif.Proofs.SchedLoops
/-!
# C03 — every pipeline run terminates and runs each eligible stage exactly once

Model: `Model/Sched.lean`.  Termination is the classical variant argument, every ingredient of which
is a theorem below: a per-stage weight (waiting 3, inside `Run` 2, between the two status writes of
a failing goroutine 1, otherwise 0) that no action ever increases (`C03_weight_mono`), that every
task completion strictly decreases (`C03_completion_decreases`), and that every complete pass of the
loop strictly decreases whenever nothing is in flight and something still waits
(`C03_pass_progress`, needs acyclicity).  With `n` stages the total weight starts at `3n`
(`C03_weight_init`), so under the stated fairness assumption (the loop keeps being scheduled; every
started `Run` returns) the run is over after at most `3n` weight-decreasing steps; when the weight is
zero the run is terminal (`C03_weight_zero_terminal`).

The argument is also closed for one concrete fair schedule (`Proofs/SchedFair.lean`): a *round* lets
every task in flight return (with the outcomes `okf` picks) and then lets the loop make one complete
pass.  `C03_round_decreases`: unless the run is over, every round strictly decreases the total
weight — from **every** reachable state with the loop between passes, not only from the start, so
whatever interleaving happened before, fairness from then on finishes the run.
`C03_fair_terminates`: from the start, `3n + 1` rounds suffice, for every acyclic configuration and
every outcome assignment; the state reached is a reachable one (`C03_fair_is_interleaving`), so
everything proved for arbitrary interleavings (C01, C02, `C03_once`, `C03_terminal`) applies to it.
`C03_fair_run_final` puts C02 and C03 together with no hypothesis about the reached state left over:
the fair run from `init`, completed by the goroutines' last writes, is terminal and every stage has
its `final` status.
-/
namespace Sched

/-! ### exactly once -/

def OnceInv (σ : St) : Prop := ∀ s, σ.starts s = if σ.g s = .none then 0 else 1

theorem once_init (c : Cfg) : Inv c init ∧ OnceInv init := ⟨inv_init c, fun _ => rfl⟩

theorem once_step (c : Cfg) (σ : St) (a : Act) (h : Inv c σ ∧ OnceInv σ) :
    Inv c (step c σ a) ∧ OnceInv (step c σ a) :=
  ⟨inv_step c σ a h.1, fun s => (step_move a h.1 s).once (h.2 s)⟩

theorem once_run (c : Cfg) (as : List Act) : OnceInv (run c init as) :=
  (List.foldlRecOn as (step c) (once_init c) fun σ h a _ => once_step c σ a h).2

/-- what the counter's being `0` without goroutine and `1` with one says -/
theorem once_iff {k : Nat} {w : G} (h : k = if w = .none then 0 else 1) :
    k ≤ 1 ∧ (k = 1 ↔ w ≠ .none) := by
  split at h <;> simp_all

/-- **C03 (at most once)**: under every interleaving no stage is ever started twice, and a stage
has been started exactly once iff its goroutine exists. -/
theorem C03_once (c : Cfg) (as : List Act) (s : Nat) :
    (run c init as).starts s ≤ 1 ∧ ((run c init as).starts s = 1 ↔ (run c init as).g s ≠ .none) :=
  once_iff (once_run c as s)

/-- **C03 (exactly the eligible stages, exactly once)**: when the run is over, a stage has been
executed once if its final status is `done` or `error` — i.e. its condition did not exclude it and
none of its dependencies blocked it — and not at all otherwise. -/
theorem C03_terminal (c okf rank) (hac : Acyclic c rank) (hne : ∀ s, c.cond s ≠ .err)
    (as : List Act) (has : ∀ a ∈ as, Respects okf a) (n : Nat) (ht : Terminal n (run c init as))
    (s : Nat) (hsn : s < n) :
    ((run c init as).starts s = 1 ↔ (final c okf rank s = .done ∨ final c okf rank s = .error)) ∧
    ((run c init as).starts s = 0 ↔ (final c okf rank s = .skipped ∨ final c okf rank s = .canceled)) := by
  obtain ⟨hi, hag⟩ := agree_run c okf _ (final_isFinal c okf rank hac) hne as has
  -- settled, the stage has its final status, and the status says whether the goroutine exists
  have hfin := (hag.agr s).settled (hi.coh s) (ht s hsn)
  have hst := (hi.coh s).settled_started (hag.err_run s) (ht s hsn)
  rw [← hfin, once_run c as s, ← hst.1, ← hst.2]
  split <;> rename_i h <;> simp [h]

/-! ### the variant -/

theorem C03_weight_init (s : Nat) : weight init s = 3 := weight_init s

/-- **no action ever increases the weight of any stage** -/
theorem C03_weight_mono (c : Cfg) (σ : St) (a : Act) (hi : Inv c σ) (s : Nat) :
    weight (step c σ a) s ≤ weight σ s :=
  weight_step_le c σ a hi s

/-- **every completion step of a task in flight strictly decreases its weight** -/
theorem C03_completion_decreases (c : Cfg) (σ : St) (s : Nat) (ok : Bool) :
    (σ.g s = .inRun → weight (step c σ (.ret s ok)) s < weight σ s) ∧
    (σ.g s = .afterErr → weight (step c σ (.post s)) s < weight σ s) := by
  constructor
  · intro h
    cases ok <;> simp [weight, step, h]
  · intro h
    by_cases ha : c.allow s <;> simp [weight, step, h, ha]

theorem weight_zero_iff {c σ} (hi : Inv c σ) (s : Nat) : weight σ s = 0 ↔ Settled σ s := by
  have := hi.coh s
  unfold weight Settled
  cases hg : σ.g s <;> grind [Coh]

/-- weight zero on every stage of the pipeline = the run is over -/
theorem C03_weight_zero_terminal (c : Cfg) (σ : St) (hi : Inv c σ) (n : Nat)
    (h : ∀ s, s < n → weight σ s = 0) : Terminal n σ :=
  fun s hs => (weight_zero_iff hi s).mp (h s hs)

/-! ### progress of the loop (deadlock-freedom) -/

/-- **C03 (progress)**: acyclic configuration, loop between two passes, nothing in flight, some
stage (among the `n` stages) still waiting: one complete pass over the stages decides at least one
waiting stage — the loop cannot spin for ever without a task in flight. -/
theorem C03_pass_progress (c : Cfg) (rank : Nat → Nat) (hac : Acyclic c rank) (n : Nat)
    (hclosed : ∀ s, s < n → ∀ d ∈ c.deps s, d < n)
    (as : List Act) (hidle : (run c init as).pc = .idle)
    (hquiet : ∀ s, (run c init as).g s ≠ .inRun)
    (hwait : ∃ s, s < n ∧ (run c init as).status s = .waiting) :
    ∃ s, s < n ∧ (run c init as).status s = .waiting ∧
      (pass c (run c init as) (List.range n)).status s ≠ .waiting :=
  pass_progress c rank hac n hclosed _ (inv_run c as) hidle (fun s _ => hquiet s) hwait

/-- decided stages stay decided under every action: the non-atomic `isDone` scan can only answer
"done" if every stage really is decided when the scan ends -/
theorem C03_decided_stable (c : Cfg) (σ : St) (a : Act) (hi : Inv c σ) (s : Nat)
    (h : Decided σ s) : Decided (step c σ a) s :=
  (step_move a hi s).decided h

/-! ### cancelled runs -/

/-- once cancelled (by the caller or by a condition that cannot be evaluated) the loop starts no
further pass: it exits at its next test -/
theorem C03_cancelled_loop_exits (c : Cfg) (n f : Nat) (σ : St) (h : σ.cancelled = true) :
    passes c n f σ = σ := by
  cases f with
  | zero => rfl
  | succ f => simp [passes, h]

/-- a condition error cancels the run -/
theorem C03_condition_error_cancels (c : Cfg) (σ : St) (s : Nat) (hidle : σ.pc = .idle)
    (hw : σ.status s = .waiting) (he : c.cond s = .err) :
    (step c σ (.visit s)).cancelled = true ∧ (step c σ (.visit s)).status s = .error := by
  simp [step, hidle, hw, he]

/-! ### termination under a fair schedule -/

/-- the total weight never increases along any interleaving -/
theorem C03_total_weight_mono (c : Cfg) (n : Nat) (σ : St) (hi : Inv c σ) (as : List Act) :
    totalW n (run c σ as) ≤ totalW n σ :=
  sum_map_le (fun s _ => weight_run_le c as σ hi s)

/-- **progress from every reachable state**: acyclic configuration over the stages `0 … n-1`, any
interleaving `as` so far that left the loop between two passes, run not over: one fair round (all
tasks in flight return, the loop makes one pass) strictly decreases the total weight. -/
theorem C03_round_decreases (c : Cfg) (rank : Nat → Nat) (hac : Acyclic c rank) (n : Nat)
    (hclosed : ∀ s, s < n → ∀ d ∈ c.deps s, d < n) (okf : Nat → Bool) (as : List Act)
    (hidle : (run c init as).pc = .idle) (hnd : isDone n (run c init as) = false) :
    totalW n (round c okf n (run c init as)) < totalW n (run c init as) :=
  round_totalW_lt c rank hac n hclosed okf _ (inv_run c as) hidle hnd

/-- **C03 (termination)**: under the fair schedule the `for !isDone` loop exits within `3n + 1`
rounds, for every acyclic configuration, every outcome assignment, conditions of every kind
(a condition that cannot be evaluated cancels the run, which also ends the loop). -/
theorem C03_fair_terminates (c : Cfg) (rank : Nat → Nat) (hac : Acyclic c rank) (n : Nat)
    (hclosed : ∀ s, s < n → ∀ d ∈ c.deps s, d < n) (okf : Nat → Bool) :
    isDone n (rounds c okf n (3 * n + 1) init) = true ∨
      (rounds c okf n (3 * n + 1) init).cancelled = true := by
  have key : ∀ k σ, Inv c σ → σ.pc = .idle → totalW n σ < k →
      isDone n (rounds c okf n k σ) = true ∨ (rounds c okf n k σ).cancelled = true := by
    intro k
    induction k with
    | zero => intro σ _ _ h; omega
    | succ k ih =>
      intro σ hi hidle hk
      simp only [rounds]
      split
      · rename_i h
        simpa using h
      · rename_i h
        have hnd : isDone n σ = false := by
          cases hd : isDone n σ
          · rfl
          · simp [hd] at h
        have hlt := round_totalW_lt c rank hac n hclosed okf σ hi hidle hnd
        exact ih _ (round_inv c okf n σ hi) (round_idle c okf n σ hidle) (by omega)
  exact key _ init (inv_init c) rfl (by rw [totalW_init]; omega)

/-- the state the fair schedule ends in is reached by an ordinary interleaving of the model -/
theorem C03_fair_is_interleaving (c : Cfg) (okf : Nat → Bool) (n k : Nat) :
    ∃ as, rounds c okf n k init = run c init as ∧ ∀ a ∈ as, Respects okf a :=
  let ⟨as, h, hp⟩ := rounds_is_run c okf n k init
  ⟨as, h, fun a ha => (hp a ha).1⟩

/-- after the drain a decided stage is settled: its goroutine, if it was at work, is over -/
theorem Drained.settled {L s σ σ'} (h : Drained L s σ σ') (hs : s ∈ L) (hd : Decided σ s) :
    Settled σ' s := by
  refine ⟨?_, ?_, fun ha => ?_⟩
  · rcases h.status with e | e | e <;> simp [e, hd.1]
  · rcases h.status with e | e | e <;> simp [e, hd.2]
  · by_cases hw : σ.g s = .inRun ∨ σ.g s = .afterErr
    · rw [h.fin hs hw] at ha; cases ha
    · exact hw (.inr ((h.unmoved (fun e => hw (.inl e)) (fun e => hw (.inr e))).1 ▸ ha))

/-- **C03 and C02 together, closed**: for every acyclic configuration over the stages `0 … n-1`
whose conditions can be evaluated and every assignment of outcomes, the fair run — followed by the
`wg.Wait()` of `Schedule` (every goroutine finishes) — ends: no stage is left waiting or running,
and every stage has exactly the status `final` prescribes.  No hypothesis about the state is left:
this is a statement about `init`. -/
theorem C03_fair_run_final (c : Cfg) (rank : Nat → Nat) (hac : Acyclic c rank) (n : Nat)
    (hclosed : ∀ s, s < n → ∀ d ∈ c.deps s, d < n) (okf : Nat → Bool)
    (hne : ∀ s, c.cond s ≠ .err) :
    Terminal n (run c (fairFinal c okf n) (drainActs okf n)) ∧
    ∀ s, s < n → (run c (fairFinal c okf n) (drainActs okf n)).status s = final c okf rank s := by
  obtain ⟨as, has, hp⟩ := rounds_is_run c okf n (3 * n + 1) init
  have hτ : fairFinal c okf n = run c init as := has
  -- the loop has exited because every stage is decided, not because of a cancellation
  have hnc : (fairFinal c okf n).cancelled = false := by
    rw [hτ, cancelled_run c hne as init (fun a ha => (hp a ha).2)]; rfl
  have hdone : isDone n (fairFinal c okf n) = true := by
    rcases C03_fair_terminates c rank hac n hclosed okf with h | h
    · exact h
    · unfold fairFinal at hnc; rw [hnc] at h; cases h
  have hterm : Terminal n (run c (fairFinal c okf n) (drainActs okf n)) := fun s hs =>
    (drain_stage c okf (List.range n) s _).settled (List.mem_range.mpr hs) (isDone_iff.mp hdone s hs)
  refine ⟨hterm, ?_⟩
  have hrun : run c (fairFinal c okf n) (drainActs okf n) = run c init (as ++ drainActs okf n) := by
    rw [run_append, ← hτ]
  rw [hrun] at hterm ⊢
  exact C02_final c okf rank hac hne (as ++ drainActs okf n)
    (fun a ha => by
      rcases List.mem_append.mp ha with h | h
      · exact (hp a h).1
      · exact (drainActs_props okf n a h).1) n hterm

/-! ## Non-vacuity -/
example : ∃ s, s < 4 ∧ (run exCfg2 init []).status s = .waiting ∧
    (pass exCfg2 (run exCfg2 init []) (List.range 4)).status s ≠ .waiting :=
  by refine ⟨0, ?_, ?_, ?_⟩ <;> decide

-- the fair schedule on the diamond with a failing stage: hypotheses hold, the loop really needs
-- several rounds, and it ends done (not cancelled)
example : ∀ s, s < 4 → ∀ d ∈ exCfg2.deps s, d < 4 := by decide
example : isDone 4 (rounds exCfg2 exOk 4 1 init) = false ∧ isDone 4 (rounds exCfg2 exOk 4 2 init) = false ∧
    isDone 4 (rounds exCfg2 exOk 4 13 init) = true ∧ (rounds exCfg2 exOk 4 13 init).cancelled = false ∧
    (rounds exCfg2 exOk 4 13 init).status 3 = .canceled ∧ (rounds exCfg2 exOk 4 13 init).status 2 = .done := by
  decide

/-! ## Every pipeline of a tree of nested pipelines (`Model/Tree.lean`) -/

/-- **C03 at every depth of nesting**: under every interleaving of all the schedulers of a tree of
nested pipelines, no stage of any pipeline is started twice -/
theorem C03_once_tree (T : TCfg) (xs : List TAct) (p : Path) (s : Nat) :
    (trun T tinit xs p).starts s ≤ 1 ∧
      ((trun T tinit xs p).starts s = 1 ↔ (trun T tinit xs p).g s ≠ .none) :=
  once_iff ((tree_transfer T (fun c σ => Inv c σ ∧ OnceInv σ) once_init once_step xs p).2 s)

end Sched

/-! ## Several loops over one graph (a pipeline included by several stages) — `Model/SchedMulti.lean` -/
namespace SchedMulti
open Sched

/-- with the compare-and-swap: a stage that is not waiting has been started exactly once or never, a
waiting stage never; hence at most once -/
def MInv (σ : MSt) : Prop :=
  ∀ s, (σ.status s = .waiting → σ.starts s = 0) ∧ σ.starts s ≤ 1

theorem minv_step (σ : MSt) (a : MAct) (h : MInv σ) : MInv (mstep true σ a) := by
  intro s
  have hs := h s
  cases a with
  | visit l t => simp only [mstep]; split <;> exact hs
  | giveUp l => exact hs
  | start l =>
    simp only [mstep]
    split
    · exact hs
    · rename_i t hpc
      split
      · exact hs
      · rename_i hc
        have hw : σ.status t = .waiting := by
          cases hst : σ.status t <;> simp_all
        have ht := h t
        by_cases hst : s = t
        · subst hst; simp [ht.1 hw]
        · simp [upd_apply, hst]; exact hs
  | ret t ok =>
    simp only [mstep]
    split
    · split <;> (by_cases hst : s = t
                 · subst hst; simp [upd_apply]; exact hs.2
                 · simp [upd_apply, hst]; exact hs)
    · exact hs
  | post t =>
    simp only [mstep]
    split
    · by_cases hst : s = t
      · subst hst; simp [upd_apply]; exact hs.2
      · simp [upd_apply, hst]; exact hs
    · exact hs

/-- **C03 with several loops over one graph (repaired code)**: whatever the number of loops, the
dependency structure, the conditions and the interleaving, no stage is started twice. -/
theorem C03_once_multi (as : List MAct) (s : Nat) : (mrun true minit as).starts s ≤ 1 := by
  suffices ∀ σ, MInv σ → MInv (mrun true σ as) from
    (this minit (fun _ => ⟨fun _ => rfl, Nat.zero_le _⟩) s).2
  induction as with
  | nil => intro σ h; exact h
  | cons a as ih => intro σ h; exact ih _ (minv_step σ a h)

/-- the code before fix 6c07174: two loops that both read stage 0 as waiting both start it -/
theorem C03_witness_old_two_loops :
    (mrun false minit [.visit 0 0, .visit 1 0, .start 0, .start 1]).starts 0 = 2 := by decide

/-- … and the same interleaving under the compare-and-swap starts it once -/
theorem C03_witness_cas_two_loops :
    (mrun true minit [.visit 0 0, .visit 1 0, .start 0, .start 1]).starts 0 = 1 := by decide

end SchedMulti

/-! ## Several loops over one graph, in full (`Model/SchedLoops.lean`) -/
namespace SchedLoops
open Sched

/-- **C03 with several loops over one graph, in the full model**: every loop with its own condition
evaluations and dependency reads, any interleaving - no stage is started twice, and it has been
started once exactly when its goroutine exists -/
theorem C03_loops_once (c : Cfg) (as : List LAct) (s : Nat) :
    (lrun c linit as).starts s ≤ 1 ∧
      ((lrun c linit as).starts s = 1 ↔ (lrun c linit as).g s ≠ .none) :=
  once_iff ((List.foldlRecOn
    (motive := fun σ => LInv c σ ∧ ∀ s, σ.starts s = if σ.g s = .none then 0 else 1) as (lstep c)
    ⟨linv_init c, fun _ => rfl⟩
    fun σ h a _ => ⟨linv_step c σ a h.1, fun s => (lstep_move a h.1 s).once (h.2 s)⟩).2 s)

end SchedLoops

