import TaskctlVerif.Model.Timeout
import TaskctlVerif.Proofs.Runner
/-!
# C13 — a task timeout bounds every one of its commands  (decision logic; **partial**)

Model: `Model/Timeout.lean` over the task-run model (`Model/Runner.lean`).  Proved: the decision
logic (an overrunning command fails the task even with allow_failure and nothing after it starts;
an overrunning `after` is only cut short; commands within the timeout are unaffected; the budget is
per command, not shared).  **Not proved**
(runtime, bounded by the monitor in the correspondence run): that the interpreter terminates the
overrunning process "shortly afterwards" (SIGINT, SIGKILL after 2 s; known finding: a descendant
that keeps the output pipe open delays the return).
-/
namespace Runner

/-- a command that overruns its timeout yields an error that is not an exit status … -/
theorem C13_overrun_is_fault (t d : Nat) (r : CmdResult) (h : t < d) (hr : r ≠ .norender) :
    cut (some t) d r = .fault := by
  cases r with
  | norender => exact absurd rfl hr
  | _ => exact if_neg (Nat.not_le.mpr h)

/-- … which stops the task **also when it allows failure** -/
theorem C13_overrun_stops_even_if_allowed (allow : Bool) (t d : Nat) (r : CmdResult) (h : t < d)
    (hr : r ≠ .norender) : stops allow (cut (some t) d r) = true := by
  rw [C13_overrun_is_fault t d r h hr, stops_fault]

/-- the timeout changes what commands return, not which commands there are -/
theorem jobs_timed (s : TaskSpec) (T : Option Nat) (D : Durations) : jobs (timed s T D) = jobs s := rfl

/-- **an overrunning command fails the task and none of its remaining commands start**, with or
without allow_failure: if the jobs `pre` neither fail-stop nor overrun and job `(v, j)` overruns,
the trace ends with `(v, j)`; no `after` runs; the task is errored. -/
theorem C13_overrun_fails (s : TaskSpec) (T : Nat) (D : Durations) (pre post : List (Nat × Nat))
    (v j : Nat) (hc : condOk (timed s (some T) D))
    (hb : ∀ r ∈ (timed s (some T) D).before, r.ok = true)
    (hjobs : jobs s = pre ++ (v, j) :: post)
    (hpre : ∀ p ∈ pre, ((timed s (some T) D).res p.1 p.2).ok = true)
    (hover : T < D.job v j) (hr : s.res v j ≠ .norender) :
    (runTask (timed s (some T) D)).trace =
      condToks (timed s (some T) D) ++ beforeToks (timed s (some T) D) ++ pre.map cmdTok ++ [Tok.cmd v j] ∧
    (runTask (timed s (some T) D)).errored = true ∧ (runTask (timed s (some T) D)).err = true := by
  -- by definition of `timed`, the result of job `(v, j)` is `cut (some T) (D.job v j) (s.res v j)`
  have hres : (timed s (some T) D).res v j = .fault := C13_overrun_is_fault T _ _ hover hr
  rw [runTask_stop _ pre post v j hc hb ((jobs_timed ..).trans hjobs)
    (fun p hp => stops_of_ok _ (hpre p hp)) (by rw [hres, stops_fault]), hres]
  exact ⟨rfl, rfl, rfl⟩

/-- **commands that finish within the timeout are unaffected**: pointwise, whatever the other
commands did and however much time they used — each command gets the full timeout -/
theorem C13_within_unaffected_cmd (T : Option Nat) (d : Nat) (r : CmdResult)
    (h : ∀ t, T = some t → d ≤ t) : cut T d r = r := by
  cases T with
  | none => rfl
  | some t => exact if_pos (h t rfl)

theorem cutList_within (T : Option Nat) (ds : List Nat) (rs : List CmdResult)
    (h : ∀ d ∈ ds, ∀ t, T = some t → d ≤ t) : cutList T ds rs = rs := by
  fun_induction cutList T ds rs with
  | case1 d ds r rs ih =>
    rw [List.forall_mem_cons] at h
    rw [C13_within_unaffected_cmd T d r h.1, ih h.2]
  | case2 => rfl
  | case3 => rfl

/-- if no command overruns, the task behaves exactly as without a timeout -/
theorem C13_within_unaffected (s : TaskSpec) (T : Option Nat) (D : Durations)
    (hc : ∀ t, T = some t → D.cond ≤ t) (hb : ∀ d ∈ D.before, ∀ t, T = some t → d ≤ t)
    (hj : ∀ v j t, T = some t → D.job v j ≤ t) (ha : ∀ d ∈ D.after, ∀ t, T = some t → d ≤ t) :
    timed s T D = s := by
  have h1 : s.cond.map (cut T D.cond) = s.cond := by
    cases s.cond <;> simp [C13_within_unaffected_cmd T D.cond _ hc]
  simp only [timed, h1, cutList_within T _ _ hb, cutList_within T _ _ ha,
    C13_within_unaffected_cmd T _ _ (hj _ _)]

/-- **an overrunning `after` hook is merely cut short**: it still counts as begun, the following
`after` commands still run, and the task's status is not affected -/
theorem C13_after_cut_short (i : Nat) (T d : Nat) (r : CmdResult) (rest : List CmdResult)
    (h : T < d) (hr : r ≠ .norender) :
    runAfter i (cut (some T) d r :: rest) = Tok.after i :: runAfter (i + 1) rest := by
  rw [C13_overrun_is_fault T d r h hr]
  rfl

/-- the time budget is per command: every command costs at most `T`, so a run of `k` commands
takes at most `k * T` — and no command's budget is reduced by its predecessors -/
theorem C13_time_bound (T : Nat) (ds : List Nat) :
    (ds.map (cost (some T))).sum ≤ ds.length * T := by
  induction ds with
  | nil => simp
  | cons d ds ih =>
    simp only [List.map_cons, List.sum_cons, List.length_cons, cost, Nat.succ_mul]
    omega

/-! ## Non-vacuity: three commands, the second overruns; allow_failure is set -/
def exTimed : TaskSpec :=
  { cond := none, before := [], nCmds := 3, vars := none, res := fun _ _ => .exit 0#8, after := [.exit 0#8],
    allow := true, initExit := 0 }
def exDur : Durations := { cond := 0, before := [], job := fun _ j => if j = 1 then 30000 else 10, after := [5] }
example : (runTask (timed exTimed (some 150) exDur)).trace = [.cmd 0 0, .cmd 0 1] ∧
    (runTask (timed exTimed (some 150) exDur)).errored = true := by decide
example : (runTask (timed exTimed none exDur)).trace = [.cmd 0 0, .cmd 0 1, .cmd 0 2, .after 0] := by decide

end Runner
