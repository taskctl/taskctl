import TaskctlVerif.Model.Decode
import TaskctlVerif.Model.Normalise
/-!
# C16 — YAML, JSON and TOML express the same configuration identically  (**partial**, weakest tie)

Models: `Model/Decode.lean`; `Model/Normalise.lean` for the second half (`C16_unify`).  The theorem
on decoding is about tables that model three third-party parsers and the weak-typing rules of
`mapstructure`; its value is that every native-type case had to be enumerated, and that the tables
are compared with the real parsers on every run.  Everything downstream of the decoded definition
(`buildFromDefinition`, running tasks, scheduling) is a function of the definition, so equal
definitions give equal `list` / `show` / `graph` / run results — which the monitor checks end to
end on the real binary.
-/
namespace Decode

/-- the weak decoders do not see which parser produced a scalar -/
theorem toStr_repr (f g : Format) (s : Scalar) :
    toStr (reprScalar f s) = toStr (reprScalar g s) := by
  cases s <;> cases f <;> cases g <;> rfl

theorem toBool_repr (f g : Format) (s : Scalar) :
    toBool (reprScalar f s) = toBool (reprScalar g s) := by
  cases s <;> cases f <;> cases g <;> rfl

/-- decoding a field gives the same value whichever two formats its content is written in: key
flavour and slice flavour are ignored by `decode`, and the scalars decode alike -/
theorem decode_repr (f g : Format) (t : Target) (fld : Field) :
    decode t (reprField f fld) = decode t (reprField g fld) := by
  cases fld <;> cases t <;>
    simp only [decode, reprField, List.map_map, Function.comp_def, toStr_repr f g, toBool_repr f g]

theorem decodeEntry_repr (f g : Format) (e : Entry) : decodeEntry f e = decodeEntry g e := by
  simp only [decodeEntry, decode_repr f g]

theorem decodeSection_repr (f g : Format) (s : Section) :
    decodeSection f s = decodeSection g s := by
  simp only [decodeSection, decodeEntry_repr f g]

/-- **the three representations of the same content decode to the same value**, for every field
content and every target type of the schema — including the weakly typed cases (an integer or a
boolean where a string is expected, a single scalar where a list is expected) -/
theorem C16_field_agree (t : Target) (fld : Field) :
    decode t (reprField .yaml fld) = decode t (reprField .json fld) ∧
    decode t (reprField .yaml fld) = decode t (reprField .toml fld) :=
  ⟨decode_repr .yaml .json t fld, decode_repr .yaml .toml t fld⟩

/-- whole entries and whole sections decode identically from the three formats -/
theorem C16_section_agree (s : Section) :
    decodeSection .yaml s = decodeSection .json s ∧ decodeSection .yaml s = decodeSection .toml s :=
  ⟨decodeSection_repr .yaml .json s, decodeSection_repr .yaml .toml s⟩

/-- the native types do differ — the agreement is a property of the decoder, not of the parsers -/
theorem C16_natives_differ :
    (reprScalar .yaml (.number 3)).goType = "int" ∧ (reprScalar .json (.number 3)).goType = "float64" ∧
    (reprScalar .toml (.number 3)).goType = "int64" := by decide

/-! ## Non-vacuity: a task with a numeric description, a scalar command and an env map with a number -/
def exEntry : Entry :=
  [("description", .tstring, .scalar (.number 7)), ("command", .tstrings, .scalar (.text "make")),
   ("allow_failure", .tbool, .scalar (.flag true)), ("env", .tstrmap, .dict [("N", .number 12), ("T", .text "t")]),
   ("variations", .tstrmaps, .tables [[("VAL", .text "a")], [("VAL", .number 2)]])]
example : decodeEntry .toml exEntry =
    [("description", .dstring "7"), ("command", .dstrings ["make"]), ("allow_failure", .dbool true),
     ("env", .dstrmap [("N", "12"), ("T", "t")]), ("variations", .dstrmaps [[("VAL", "a")], [("VAL", "2")]])] := by
  rfl

end Decode

/-! ## Documents of different formats are brought to one form before a merge (`Model/Normalise.lean`) -/
namespace Normalise

/-! The list functions of the model are `map` / `all` of the tree functions, and every fact about
trees below is one induction in which the children of a node are covered by the hypothesis. -/

theorem normList_eq_map (vs : List V) : normList vs = vs.map norm := by
  induction vs with
  | nil => rfl
  | cons c cs ih => rw [normList, ih, List.map_cons]

theorem shapeList_eq_map (vs : List V) : shapeList vs = vs.map shape := by
  induction vs with
  | nil => rfl
  | cons c cs ih => rw [shapeList, ih, List.map_cons]

theorem uniformList_eq_all (vs : List V) : uniformList vs = vs.all uniform := by
  induction vs with
  | nil => rfl
  | cons c cs ih => rw [uniformList, ih, List.all_cons]

theorem pureIList_eq_all (vs : List V) : pureIList vs = vs.all pureI := by
  induction vs with
  | nil => rfl
  | cons c cs ih => rw [pureIList, ih, List.all_cons]

theorem uniform_node (k : Kind) (cs : List V) :
    uniform (.node k cs) = true ↔ (k = .mapS ∨ k = .listI) ∧ ∀ c ∈ cs, uniform c = true := by
  rw [uniform, uniformList_eq_all, Bool.and_eq_true, Bool.or_eq_true, beq_iff_eq, beq_iff_eq,
    List.all_eq_true]

/-- induction on trees with, at a node, the hypothesis for every child: the recursor of the nested
type with the motive for lists of children filled in -/
theorem V.induct {P : V → Prop} (leaf : P .leaf)
    (node : ∀ k cs, (∀ c ∈ cs, P c) → P (.node k cs)) : ∀ v, P v :=
  @V.rec P (fun cs => ∀ c ∈ cs, P c) leaf node (fun _ h => nomatch h)
    (fun _ _ hc hcs _ h => (List.mem_cons.mp h).elim (· ▸ hc) (hcs _))

theorem uniform_norm : ∀ v : V, uniform (norm v) = true := by
  refine V.induct rfl fun k cs ih => ?_
  rw [norm, uniform_node, normList_eq_map]
  exact ⟨by cases k <;> decide, List.forall_mem_map.mpr ih⟩

theorem uniformList_normList (vs : List V) : uniformList (normList vs) = true := by
  rw [normList_eq_map, uniformList_eq_all, List.all_map]
  exact List.all_eq_true.mpr fun v _ => uniform_norm v

theorem isMapKind_normKind (k : Kind) : isMapKind (normKind k) = isMapKind k := by
  cases k <;> rfl

/-- normalising changes kinds only: the content (which nodes are mappings, which are lists, in which
order) is what it was -/
theorem shape_norm : ∀ v : V, shape (norm v) = shape v := by
  refine V.induct rfl fun k cs ih => ?_
  rw [norm, shape, shape, isMapKind_normKind, normList_eq_map, shapeList_eq_map, shapeList_eq_map,
    List.map_map, List.map_congr_left (f := shape ∘ norm) ih]

theorem shapeList_normList (vs : List V) : shapeList (normList vs) = shapeList vs := by
  rw [normList_eq_map, shapeList_eq_map, shapeList_eq_map, List.map_map]
  exact List.map_congr_left fun v _ => shape_norm v

theorem norm_of_uniform : ∀ v : V, uniform v = true → norm v = v := by
  refine V.induct (fun _ => rfl) fun k cs ih h => ?_
  obtain ⟨hk, hcs⟩ := (uniform_node k cs).mp h
  rw [norm, normList_eq_map, List.map_congr_left fun c hc => ih c hc (hcs c hc), List.map_id']
  rcases hk with rfl | rfl <;> rfl

theorem normList_of_uniformList : ∀ vs : List V, uniformList vs = true → normList vs = vs := by
  intro vs h
  rw [uniformList_eq_all, List.all_eq_true] at h
  rw [normList_eq_map, List.map_congr_left fun c hc => norm_of_uniform c (h c hc), List.map_id']

/-- normalising twice is normalising once (a document that went through one merge is left alone by
the next) -/
theorem norm_idem (v : V) : norm (norm v) = norm v := norm_of_uniform _ (uniform_norm v)

theorem not_isMapS_of_pureI (v : V) (h : pureI v = true) : isMapS v = false := by
  cases v with
  | leaf => rfl
  | node k cs =>
    rw [pureI, Bool.and_eq_true, Bool.or_eq_true, beq_iff_eq, beq_iff_eq] at h
    rcases h.1 with rfl | rfl <;> rfl

theorem any_isMapS_pureI (vs : List V) (h : pureIList vs = true) : vs.any isMapS = false := by
  rw [pureIList_eq_all, List.all_eq_true] at h
  exact List.any_eq_false.mpr fun v hv => by rw [not_isMapS_of_pureI v (h v hv)]; exact nofun

/-- **what `unifyMapKinds` establishes before every merge**: either it normalises, and then both
documents are uniform (string-keyed mappings and plain lists only - the kinds `mergo` can merge and
append), with their content unchanged; or it leaves both alone, and then neither has a string-keyed
mapping among its top-level values.  In particular two YAML documents stay as they are, and as soon
as one of the two came from JSON or TOML (or from an earlier mixed merge) and has a section, both end
up in the common form. -/
theorem C16_unify (a b : List V) :
    ((a.any isMapS || b.any isMapS) = true →
      uniformList (unify a b).1 = true ∧ uniformList (unify a b).2 = true ∧
      shapeList (unify a b).1 = shapeList a ∧ shapeList (unify a b).2 = shapeList b) ∧
    ((a.any isMapS || b.any isMapS) = false → unify a b = (a, b)) := by
  constructor
  · intro h
    rw [unify, if_pos h]
    exact ⟨uniformList_normList a, uniformList_normList b, shapeList_normList a, shapeList_normList b⟩
  · intro h
    rw [unify, if_neg (ne_true_of_eq_false h)]

/-- two YAML documents are left as yaml.v2 made them -/
theorem C16_unify_yaml_yaml (a b : List V) (ha : pureIList a = true) (hb : pureIList b = true) :
    unify a b = (a, b) := by
  apply (C16_unify a b).2
  rw [any_isMapS_pureI a ha, any_isMapS_pureI b hb]
  rfl

-- a TOML document with an array of tables next to a YAML document defining the same section
example : unify [.node .mapS [.node .listM [.node .mapS [.leaf]]]] [.node .mapI [.node .listI [.node .mapI [.leaf]]]] =
    ([.node .mapS [.node .listI [.node .mapS [.leaf]]]], [.node .mapS [.node .listI [.node .mapS [.leaf]]]]) :=
  rfl

end Normalise

