import TaskctlVerif.Proofs.Runner
import TaskctlVerif.Model.Cli
/-!
# C07 — reported status is faithful: exit codes, errors and the process exit status

Model: `Model/Runner.lean` (`runTask`) and `Model/Cli.lean`.
-/
namespace Runner

/-- **errored ⇔ failed**: the task is marked errored iff the condition (if any) held, every
`before` command succeeded and some job *stops* the task — any non-success without allow_failure;
with allow_failure only an error that is not an exit status. -/
theorem C07_errored_iff (t : TaskSpec) :
    (runTask t).errored = true ↔
      condOk t ∧ (∀ r ∈ t.before, r.ok = true) ∧ ∃ p ∈ jobs t, stops t.allow (t.res p.1 p.2) = true := by
  rcases runTask_cases t with ⟨hc, e⟩ | ⟨hc, _, _, e⟩ | ⟨hc, _, _, _, e⟩ <;> rw [e]
  · -- `errored` is: no `before` command fails (`runBefore_failed`) && some job stops
    -- (`execute_errored`); the other lemmas turn the two `any`s into quantifiers
    rw [body_eq t _ rfl rfl]
    simp only [runBefore_failed, execute_errored, Bool.and_eq_true, Bool.not_eq_true',
      List.any_eq_false, List.any_eq_true, Bool.not_eq_false, hc, true_and]
  · exact ⟨nofun, fun h => absurd h.1 hc⟩
  · exact ⟨nofun, fun h => absurd h.1 hc⟩

/-- **the recorded exit status is the failing command's, for every status 1..255**: in the
situation of `C06_first_failure` with an exit status `n`, `ExitCode = int16(n)` and its value as an
integer is `n` (no sign or truncation problem for 128..255). -/
theorem C07_exit_code (t : TaskSpec) (pre post : List (Nat × Nat)) (v j : Nat) (n : BitVec 8)
    (hallow : t.allow = false) (hc : condOk t) (hb : ∀ r ∈ t.before, r.ok = true)
    (hjobs : jobs t = pre ++ (v, j) :: post)
    (hpre : ∀ p ∈ pre, (t.res p.1 p.2).ok = true) (hres : t.res v j = .exit n) (hn : n ≠ 0#8) :
    (runTask t).exitCode = statusToExit n ∧ (runTask t).exitCode.toInt = n.toNat ∧
      (runTask t).errored = true := by
  rw [runTask_stop t pre post v j hc hb hjobs (fun p hp => stops_of_ok _ (hpre p hp))
    (by simp [hallow, hres, stops, hn])]
  simp [hres, exitAfter, hn, statusToExit_toInt]

/-- **success, or only allowed failures, records 0 and no error** -/
theorem C07_success_zero (t : TaskSpec) (h1 : (runTask t).errored = false)
    (h2 : (runTask t).skipped = false) : (runTask t).exitCode = 0 := by
  rcases runTask_cases t with ⟨_, e⟩ | ⟨_, _, _, e⟩ | ⟨_, _, _, _, e⟩
  · rw [e, body_eq t _ rfl rfl] at h1 ⊢
    exact if_neg (ne_true_of_eq_false h1)
  · rw [e] at h2; cases h2
  · rw [e]

/-- with allow_failure and exit statuses only (the C06_allow_runs_all situation) nothing is
reported: no error, not errored, exit code 0 -/
theorem C07_allowed_failures_report_nothing (t : TaskSpec) (hallow : t.allow = true) (hc : condOk t)
    (hb : ∀ r ∈ t.before, r.ok = true) (hexit : ∀ p ∈ jobs t, ∃ n, t.res p.1 p.2 = .exit n) :
    (runTask t).err = false ∧ (runTask t).errored = false ∧ (runTask t).exitCode = 0 := by
  rw [runTask_no_stop t hc hb fun p hp => stops_of_exit_allowed hallow (hexit p hp)]
  exact ⟨rfl, rfl, rfl⟩

/-- **a skipped task records no exit status and no error** -/
theorem C07_skipped (t : TaskSpec) (h : (runTask t).skipped = true) :
    (runTask t).exitCode = t.initExit ∧ (runTask t).err = false ∧ (runTask t).errored = false ∧
      (runTask t).trace = [Tok.cond] := by
  rcases runTask_cases t with ⟨_, e⟩ | ⟨_, _, _, e⟩ | ⟨_, _, _, _, e⟩ <;> rw [e] at h ⊢
  · rw [body_eq t _ rfl rfl] at h; cases h
  · exact ⟨rfl, rfl, rfl, rfl⟩
  · cases h

/-- **`Run` returns an error exactly when** the task is errored, or a `before` command failed, or
the condition could not be evaluated -/
theorem C07_error_returned_iff (t : TaskSpec) :
    (runTask t).err = true ↔
      (runTask t).errored = true ∨
      (condOk t ∧ ∃ r ∈ t.before, r.ok = false) ∨
      (t.cond = some .fault ∨ t.cond = some .norender) := by
  rcases runTask_cases t with ⟨hc, e⟩ | ⟨hnc, n, hc, e⟩ | ⟨_, c, h, hc, e⟩ <;> rw [e]
  · have herr : (runTask.body t (condToks t)).err =
        ((runTask.body t (condToks t)).errored || (runBefore 0 t.before).2) := by
      rw [body_eq t _ rfl rfl]; cases (runBefore 0 t.before).2 <;> simp
    have hne : ¬(t.cond = some .fault ∨ t.cond = some .norender) := by
      rcases hc with hc | hc <;> simp [hc]
    rw [herr, Bool.or_eq_true, runBefore_failed, List.any_eq_true]
    simp only [hc, hne, true_and, or_false, Bool.not_eq_true']
  · simp [hnc, hc]
  · rcases h with rfl | rfl <;> simp [hc]

end Runner

namespace Cli

/-- the executed targets are the successful prefix followed by the first failing target, if there is
one; all succeeded iff no target fails -/
theorem runTargets_eq (ok : String → Bool) (ts : List String) :
    runTargets ok ts = (ts.takeWhile ok ++ (ts.dropWhile ok).take 1, ts.all ok) := by
  induction ts with
  | nil => rfl
  | cons t ts ih => cases h : ok t <;> simp [runTargets, h, ih]

/-- **the process exits with status zero exactly when every requested target succeeded** -/
theorem C07_cli_exit_zero_iff (ok : String → Bool) (args : List String) :
    (cli ok args).2 = 0 ↔ ∀ t ∈ targetsOf args, ok t = true := by
  simp [cli, runTargets_eq]

/-- **targets run in command-line order and nothing runs after the first failure**: the executed
targets are the successful prefix, followed by the first failing target if there is one -/
theorem C07_cli_order (ok : String → Bool) (ts : List String) :
    (runTargets ok ts).1 = ts.takeWhile ok ++ ((ts.dropWhile ok).take 1) := by
  rw [runTargets_eq]

theorem C07_cli_nothing_after_failure (ok : String → Bool) (pre post : List String) (f : String)
    (hpre : ∀ t ∈ pre, ok t = true) (hf : ok f = false) :
    runTargets ok (pre ++ f :: post) = (pre ++ [f], false) := by
  rw [runTargets_eq, List.takeWhile_append_of_pos hpre, List.dropWhile_append_of_pos hpre]
  simp [hf]

/-- nothing after `--` is ever treated as a target -/
theorem C07_cli_targets_before_dashes (pre post : List String) (h : ∀ a ∈ pre, a ≠ "--") :
    targetsOf (pre ++ "--" :: post) = pre := by
  rw [targetsOf, List.takeWhile_append_of_pos (by simpa using h)]
  simp

example : cli (fun t => t != "bad") ["a", "bad", "c", "--", "bad"] = (["a", "bad"], 1) := by decide
example : cli (fun t => t != "bad") ["a", "c", "--", "bad"] = (["a", "c"], 0) := by decide

end Cli
