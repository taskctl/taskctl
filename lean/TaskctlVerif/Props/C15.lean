import TaskctlVerif.Model.Loader
/-!
# C15 — loading configuration never crashes  (**partial**: from the parsed tree onwards)

Model: `Model/Loader.lean`.  Proved: on every raw `import` value, every decoded definition with
arbitrary nil entries, and every list of env-file lines, the repaired loader functions end in `ok`
or `err`, never `panic`.  **Not proved**: that the three third-party parsers and
`mapstructure`/`mergo` do not panic on arbitrary bytes, and the bounded running time — both are
exercised by the mutation stream of the correspondence run (a test, labelled as such).
-/
namespace Loader

/-- a choice between two outcomes that are not crashes is not a crash -/
theorem ite_ne_panic {α : Type} {c : Prop} [Decidable c] {a b : Outcome α} (ha : a ≠ .panic)
    (hb : b ≠ .panic) : (if c then a else b) ≠ .panic := by
  split <;> assumption

/-- **(a)** no raw `import` value crashes the loader -/
theorem C15_import_total (v : Value) : importList v ≠ .panic := by
  cases v with
  | list items => exact ite_ne_panic nofun nofun
  | _ => nofun

/-- a single string is a one-element list; a list of strings is taken as it is -/
theorem C15_import_shapes (s : String) (ss : List String) :
    importList (.str s) = .ok [s] ∧ importList (.list (ss.map .str)) = .ok ss := by
  refine ⟨rfl, ?_⟩
  rw [importList, if_pos (List.all_eq_true.mpr fun v hv => ?_), List.filterMap_map]
  · exact congrArg Outcome.ok List.filterMap_some
  · obtain ⟨s, _, rfl⟩ := List.mem_map.mp hv; rfl

/-- **(b)** no definition — with any combination of empty/null entries, missing or malformed
env files, dangling references, `dir` on pipeline stages — crashes the builder -/
theorem C15_build_total (d : ConfigDef) : build d ≠ .panic :=
  ite_ne_panic nofun (ite_ne_panic nofun (ite_ne_panic nofun (ite_ne_panic nofun nofun)))

/-- **(c)** no env file crashes the reader -/
theorem C15_envfile_total (ls : List (List Char)) : readEnvLines ls ≠ .panic := by
  induction ls with
  | nil => nofun
  | cons l rest ih =>
    rw [readEnvLines]
    refine ite_ne_panic ih ?_
    split
    · refine ite_ne_panic nofun ?_
      split
      · nofun
      · exact ih
    · nofun

/-- the value of an env-file entry is everything after the first `=` -/
theorem C15_envfile_value (l k v : List Char) (h : splitFirst l = some (k, v)) :
    l = k ++ '=' :: v ∧ '=' ∉ k := by
  induction l generalizing k v with
  | nil => nomatch h
  | cons c rest ih =>
    rw [splitFirst] at h
    split at h
    · -- the line starts with `=`: empty name, the rest is the value
      cases h
      exact ⟨by rw [‹c = '='›]; rfl, List.not_mem_nil⟩
    · split at h
      · -- the name continues: `c` is not `=`, and the rest splits by the hypothesis
        cases h
        obtain ⟨rfl, hk⟩ := ih _ _ ‹_›
        exact ⟨rfl, fun hm => (List.mem_cons.mp hm).elim (fun e => ‹¬c = '='› e.symm) hk⟩
      · nomatch h

/-! ## Regression witnesses for defect D8 (fixed): each crashing shape of the pre-fix loader -/
theorem C15_witness_old_import_string : importListOld (.str "other.yaml") = .panic := rfl
theorem C15_witness_old_import_null : importListOld .null = .panic := rfl
theorem C15_witness_old_import_item : importListOld (.list [.num 3]) = .panic := by decide
theorem C15_witness_old_empty_task : buildOld { contexts := [], tasks := [none], watchers := [], pipelines := [] } = .panic := by decide
theorem C15_witness_old_empty_stage : buildOld { contexts := [], tasks := [], watchers := [], pipelines := [[none]] } = .panic := by decide
theorem C15_witness_old_empty_context : buildOld { contexts := [none], tasks := [], watchers := [], pipelines := [] } = .panic := by decide
theorem C15_witness_old_missing_envfile :
    buildOld { contexts := [], tasks := [some ⟨.missing⟩], watchers := [], pipelines := [] } = .panic := by decide
theorem C15_witness_old_dir_on_pipeline_stage :
    buildOld { contexts := [], tasks := [], watchers := [], pipelines := [[some ⟨false, true, true⟩]] } = .panic := by decide
theorem C15_witness_old_blank_line : readEnvLinesOld ["A=b".toList, [], "C=d".toList] = .panic := by decide

/-! ## Non-vacuity -/
example : readEnvLines ["A=b=c".toList, "".toList, "# x".toList, "D=".toList] =
    .ok [("A".toList, "b=c".toList), ("D".toList, [])] := by decide
example : build { contexts := [some ()], tasks := [some ⟨.good⟩], watchers := [some true],
                  pipelines := [[some ⟨true, true, true⟩]] } = .ok () := by decide

end Loader
