import TaskctlVerif.Model.Cancel
import TaskctlVerif.Proofs.Runner
/-!
# C12 — cancellation is safe and prompt at any moment

Model: `Model/Cancel.lean` (the hand-shake), composed informally with the runner model (`Model/Runner.lean`: an
error that is not an exit status is never swallowed by allow_failure, `C12_fault_never_allowed`) and with the
scheduler model (`C03`).  The theorems about `run` quantify over every interleaving of any number of runs and of
`Cancel` callers; the others speak of one step from an arbitrary state, of what a condition decides, or are
witnesses against the protocol before the fix.
What the model cannot exhibit: that the interpreter really kills a running process (SIGINT, then
SIGKILL after 2 s) — bounded by the monitor in the correspondence run, not proved.
-/
namespace Cancel

/-- number of registered runs among the first `n` run ids -/
def cnt (ph : Nat → Phase) (n : Nat) : Nat :=
  ((List.range n).filter (fun i => (ph i).isAdmitted)).length

def admittedCount (σ : CS) (n : Nat) : Nat := cnt σ.phase n

@[simp] theorem upd_same {α} (f : Nat → α) k v : upd f k v k = v := if_pos rfl
theorem upd_other {α} (f : Nat → α) k v i (h : i ≠ k) : upd f k v i = f i := if_neg h
theorem upd_self {α} (f : Nat → α) k : upd f k (f k) = f := by
  funext i; simp only [upd]; split <;> simp [*]

theorem cnt_succ (ph : Nat → Phase) (n : Nat) : cnt ph (n + 1) = cnt ph n + (ph n).isAdmitted.toNat := by
  simp only [cnt, List.range_succ, List.filter_append, List.length_append, List.filter_cons, List.filter_nil]
  cases (ph n).isAdmitted <;> rfl

theorem cnt_idle (n : Nat) : cnt (fun _ => .idle) n = 0 := by
  induction n with
  | zero => rfl
  | succ n ih => rw [cnt_succ, ih]; rfl

/-- changing the phase of one run changes the count by that run's share -/
theorem cnt_upd (ph : Nat → Phase) (i n : Nat) (p : Phase) (hi : i < n) :
    cnt (upd ph i p) n + (ph i).isAdmitted.toNat = cnt ph n + p.isAdmitted.toNat := by
  induction n with
  | zero => omega
  | succ n ih =>
    rw [cnt_succ, cnt_succ]
    by_cases h : i = n
    · have : cnt (upd ph i p) i = cnt ph i := congrArg _ (List.filter_congr fun j hj => by
        rw [upd_other _ _ _ _ (Nat.ne_of_lt (List.mem_range.mp hj))])
      rw [← h, upd_same, this, Nat.add_right_comm]
    · rw [upd_other _ _ _ _ (Ne.symm h), Nat.add_right_comm, ih (by omega), Nat.add_right_comm]

/-- every action names run ids below `n` -/
def Act.Below (n : Nat) : Act → Prop
  | .enter i _ | .startCmd i | .endCmd i _ | .finish i => i < n
  | _ => True

attribute [local simp] Phase.isAdmitted

/-- The edges of one run's automaton, on (phase, commands started, commands in all) of the run;
`c`: the context is cancelled. -/
inductive Edge (c : Bool) : Phase → Nat → Nat → Phase → Nat → Nat → Prop
  | refuse n : c = true → Edge c .idle r t (.done true) r n
  | enter n : c ≠ true → Edge c .idle r t (.admitted n false) r n
  | abort : c = true → Edge c (.admitted (k+1) false) r t (.done true) r t
  | start : c ≠ true → Edge c (.admitted (k+1) false) r t (.admitted k true) (r+1) t
  | cmdOk : Edge c (.admitted k true) r t (.admitted k false) r t
  | cmdErr : Edge c (.admitted k true) r t (.done true) r t
  | finish : Edge c (.admitted 0 false) r t (.done false) r t

/-- All that `step` can do: nothing, one of the two steps of a canceller, or move the one run the
action names along an edge; `wg` follows the registration of that run, `started` its counter.
The premise of `edge` says that `i` is the run the action names, in the form `C12_wg_counts` needs. -/
@[elab_as_elim] theorem step_ind {motive : CS → Prop} (σ : CS) (a : Act) (stay : motive σ)
    (call : ∀ c, motive { σ with cancelled := true, cwait := upd σ.cwait c true })
    (ret : ∀ c, σ.cwait c = true → σ.wg = 0 →
      motive { σ with cwait := upd σ.cwait c false, cret := upd σ.cret c true })
    (edge : ∀ i, (∀ n, a.Below n → i < n) → ∀ p r t,
      Edge σ.cancelled (σ.phase i) (σ.ran i) (σ.total i) p r t →
      motive { σ with
        phase := upd σ.phase i p, ran := upd σ.ran i r, total := upd σ.total i t,
        wg := σ.wg + p.isAdmitted.toNat - (σ.phase i).isAdmitted.toNat,
        started := if r = σ.ran i then σ.started else i :: σ.started }) :
    motive (step σ a) := by
  -- By action.  Where it is not enabled: `stay`.  Where a run moves, `simpa` checks that the record `step` builds
  -- is the record of `edge`: a field the edge leaves alone is written back (`upd_self`), `wg` moves by the
  -- difference of the two `isAdmitted`.
  cases a with
  | enter i n =>
    have edge := edge i fun _ h => h
    simp only [step]; split
    · next hp =>
      rw [hp] at edge; split
      · next hc => simpa [upd_self] using edge _ _ _ (.refuse n hc)
      · next hc => simpa [upd_self] using edge _ _ _ (.enter n hc)
    · exact stay
  | startCmd i =>
    have edge := edge i fun _ h => h
    simp only [step]; split
    · next hp =>
      rw [hp] at edge; split
      · next hc => simpa [upd_self] using edge _ _ _ (.abort hc)
      · next hc => simpa [upd_self] using edge _ _ _ (.start hc)
    · exact stay
  | endCmd i ok =>
    have edge := edge i fun _ h => h
    simp only [step]; split
    · next hp =>
      rw [hp] at edge; split
      · simpa [upd_self] using edge _ _ _ .cmdOk
      · simpa [upd_self] using edge _ _ _ .cmdErr
    · exact stay
  | finish i =>
    have edge := edge i fun _ h => h
    simp only [step]; split
    · next hp => rw [hp] at edge; simpa [upd_self] using edge _ _ _ .finish
    · exact stay
  | cancelCall c =>
    simp only [step]; split
    · exact stay
    · exact call c
  | cancelRet c =>
    simp only [step]; split
    · next h => simp only [Bool.and_eq_true, beq_iff_eq] at h; exact ret c h.1 h.2
    · exact stay

/-- the same, seen from one run: it stays as it is or moves along an edge -/
theorem step_run_ind {motive : Phase → Nat → Nat → Prop} (σ : CS) (a : Act) (i : Nat)
    (stay : motive (σ.phase i) (σ.ran i) (σ.total i))
    (edge : ∀ {p r t}, Edge σ.cancelled (σ.phase i) (σ.ran i) (σ.total i) p r t → motive p r t) :
    motive ((step σ a).phase i) ((step σ a).ran i) ((step σ a).total i) := by
  refine step_ind σ a stay (fun _ => stay) (fun _ _ _ => stay) fun j _ _ _ _ e => ?_
  by_cases h : i = j
  · subst h; simpa only [upd_same] using edge e
  · simpa only [upd_other _ _ _ _ h] using stay

@[elab_as_elim] theorem run_ind {motive : CS → Prop} (σ : CS) (as : List Act) (h : motive σ)
    (hstep : ∀ σ, motive σ → ∀ a ∈ as, motive (step σ a)) : motive (run σ as) :=
  List.foldlRecOn as step h hstep

/-- **the counter is exact in every reachable state** (any number of runs and cancellers, any
interleaving): `Cancel` can return iff no registered run is left. -/
theorem C12_wg_counts (n : Nat) (as : List Act) (has : ∀ a ∈ as, a.Below n) :
    (run init as).wg = admittedCount (run init as) n := by
  refine run_ind init as (cnt_idle n).symm fun σ h a ha => ?_
  refine step_ind σ a h (fun _ => h) (fun _ _ _ => h) fun i hi p _ _ _ => ?_
  have := cnt_upd σ.phase i n p (hi n (has a ha))
  simp only [admittedCount] at *
  omega

theorem cancelled_stable (σ : CS) (a : Act) (h : σ.cancelled = true) : (step σ a).cancelled = true :=
  step_ind σ a h (fun _ => rfl) (fun _ _ _ => h) (fun _ _ _ _ _ _ => h)

/-- per-run distance to un-registering -/
def dist : Phase → Nat
  | .admitted _ true => 2
  | .admitted _ false => 1
  | _ => 0

/-- once the context is cancelled, an edge starts no command, registers no run and brings the run
no further from un-registering -/
theorem Edge.of_cancelled (e : Edge true p r t p' r' t') :
    r' = r ∧ p'.isAdmitted.toNat ≤ p.isAdmitted.toNat ∧ dist p' ≤ dist p := by
  cases e <;> simp_all [dist]

theorem no_start_step (σ : CS) (a : Act) (h : σ.cancelled = true) : (step σ a).started = σ.started :=
  step_ind σ a rfl (fun _ => rfl) (fun _ _ _ => rfl) fun _ _ _ _ _ e => if_pos (h ▸ e).of_cancelled.1

/-- a cancelled context stays cancelled, and nothing is started under it -/
theorem cancelled_run (as : List Act) (σ : CS) (h : σ.cancelled = true) :
    (run σ as).cancelled = true ∧ (run σ as).started = σ.started :=
  run_ind (motive := fun σ' => σ'.cancelled = true ∧ σ'.started = σ.started) σ as ⟨h, rfl⟩
    fun σ' h' a _ => ⟨cancelled_stable σ' a h'.1, (no_start_step σ' a h'.1).trans h'.2⟩

theorem cancelled_stable_run (as : List Act) : ∀ σ, σ.cancelled = true → (run σ as).cancelled = true :=
  fun σ h => (cancelled_run as σ h).1

/-- **once the context is cancelled no further command is started** — by any run, registered
before or after — so in particular nothing starts once `Cancel` has returned. -/
theorem C12_nothing_started_after (as₁ as₂ : List Act) (h : (run init as₁).cancelled = true) :
    (run init (as₁ ++ as₂)).started = (run init as₁).started := by
  rw [run, List.foldl_append]
  exact (cancelled_run as₂ _ h).2

/-- a canceller has returned only after the context was cancelled -/
theorem cret_cancelled (as : List Act) (c : Nat) :
    ((run init as).cret c = true ∨ (run init as).cwait c = true) → (run init as).cancelled = true := by
  refine run_ind init as (by simp [init]) fun σ h a _ => ?_
  refine step_ind σ a h (fun _ _ => rfl) (fun c' hw _ => ?_) (fun _ _ _ _ _ _ => h)
  by_cases hc : c = c'
  · exact fun _ => h (.inr (hc ▸ hw))
  · simpa only [upd_other _ _ _ _ hc] using h

/-- **after `Cancel` has returned, nothing is started any more** -/
theorem C12_nothing_after_cancel_returned (as₁ as₂ : List Act) (c : Nat)
    (h : (run init as₁).cret c = true) :
    (run init (as₁ ++ as₂)).started = (run init as₁).started :=
  C12_nothing_started_after as₁ as₂ (cret_cancelled as₁ c (.inl h))

/-- **a task started after the cancellation fails without running anything** -/
theorem C12_late_run_fails (σ : CS) (i n : Nat) (hc : σ.cancelled = true) (hi : σ.phase i = .idle) :
    (step σ (.enter i n)).phase i = .done true ∧ (step σ (.enter i n)).started = σ.started ∧
      (step σ (.enter i n)).wg = σ.wg := by
  simp [step, hi, hc, upd]

/-- **`Cancel` returns as soon as no run is registered** — with zero runs in flight immediately,
for the first caller and for every later one (cancelling twice) -/
theorem C12_cancel_returns_when_drained (σ : CS) (c : Nat) (hw : σ.cwait c = true) (h0 : σ.wg = 0) :
    (step σ (.cancelRet c)).cret c = true := by
  simp [step, hw, h0, upd]

theorem C12_cancel_zero_inflight (c : Nat) :
    (run init [.cancelCall c, .cancelRet c]).cret c = true := by
  simp [run, step, init, upd]

/-- while cancelled, the number of registered runs never grows … -/
theorem C12_wg_nonincreasing (σ : CS) (a : Act) (hc : σ.cancelled = true) : (step σ a).wg ≤ σ.wg :=
  step_ind σ a (Nat.le_refl _) (fun _ => Nat.le_refl _) (fun _ _ _ => Nat.le_refl _) fun _ _ _ _ _ e =>
    Nat.sub_le_of_le_add (Nat.add_le_add_left (hc ▸ e).of_cancelled.2.1 _)

/-- … and every registered run always has an enabled action of its own that brings it strictly
closer to un-registering (so, under fairness and "a cancelled command returns", `wg` reaches 0 and
`Cancel` returns): a command in flight ends; a run between commands finds the context cancelled at
its next `Execute`, or had no command left and returns. -/
theorem C12_drain (σ : CS) (i : Nat) (hc : σ.cancelled = true) (k : Nat) (b : Bool)
    (hp : σ.phase i = .admitted k b) :
    ∃ a, dist ((step σ a).phase i) < dist (σ.phase i) := by
  cases b with
  | true => exact ⟨.endCmd i true, by simp [step, hp, upd, dist]⟩
  | false =>
    cases k with
    | zero => exact ⟨.finish i, by simp [step, hp, upd, dist]⟩
    | succ k => exact ⟨.startCmd i, by simp [step, hp, hc, upd, dist]⟩

/-- no action of another run or canceller undoes that progress -/
theorem C12_dist_mono (σ : CS) (a : Act) (i : Nat) (hc : σ.cancelled = true)
    (hne : σ.phase i ≠ .idle) : dist ((step σ a).phase i) ≤ dist (σ.phase i) :=
  step_run_ind (motive := fun p _ _ => dist p ≤ dist (σ.phase i)) σ a i (Nat.le_refl _)
    fun e => (hc ▸ e).of_cancelled.2.2

/-- commands started + commands left = commands in all -/
def Counted : Phase → Nat → Nat → Prop
  | .idle, r, _ => r = 0
  | .admitted k _, r, t => r + k = t
  | .done false, r, t => r = t
  | .done true, _, _ => True

theorem Edge.counted (e : Edge c p r t p' r' t') (h : Counted p r t) : Counted p' r' t' := by
  cases e <;> simp only [Counted] at * <;> omega

theorem counted_run (as : List Act) (i : Nat) (σ : CS) (h : Counted (σ.phase i) (σ.ran i) (σ.total i)) :
    Counted ((run σ as).phase i) ((run σ as).ran i) ((run σ as).total i) :=
  run_ind (motive := fun σ => Counted (σ.phase i) (σ.ran i) (σ.total i)) σ as h
    fun σ h a _ => step_run_ind σ a i h fun e => e.counted h

/-- **a run reports success only if every one of its commands was started and ended by itself**:
a task that was interrupted, or had not started all its commands when the context was cancelled,
reports an error. -/
theorem C12_interrupted_reports_error (as : List Act) (i : Nat)
    (h : (run init as).phase i = .done false) : (run init as).ran i = (run init as).total i := by
  have := counted_run as i init rfl
  rwa [h] at this

/-- the interruption itself is never swallowed by allow_failure (from R): an error that is not an
exit status stops the task whatever `allow_failure` says -/
theorem C12_fault_never_allowed (allow : Bool) : Runner.stops allow .fault = true := rfl

/-- **an interrupted condition never turns into "skipped"**: once the context is cancelled, whatever the condition
command ends with, the task (stage) either goes on to commands that will themselves refuse to start, or reports an error -
it is never marked skipped, which the scheduler would count as success -/
theorem C12_cancelled_condition_never_skips (e : CondEnd) : condVerdict true e ≠ .skipped := by
  cases e <;> simp [condVerdict]

/-- without a cancellation the verdict is the plain one: 0 proceeds, another status skips, anything else is an error -/
theorem C12_condition_plain (e : CondEnd) :
    condVerdict false e = (match e with | .zero => .proceed | .nonzero => .skipped | .killed => .error) := by
  cases e <;> rfl

/-- the variant that looks at the exit status first is wrong exactly on a trapped interrupt -/
theorem C12_witness_status_first : condVerdictStatusFirst true .nonzero = .skipped ∧
    ∀ c e, (c, e) ≠ (true, CondEnd.nonzero) → condVerdictStatusFirst c e = condVerdict c e := by
  refine ⟨rfl, ?_⟩
  intro c e h
  cases c <;> cases e <;> simp_all [condVerdictStatusFirst, condVerdict]

/-! ## Regression witnesses for defect D2 (fixed): the pre-fix hand-shake -/

/-- no run in flight: `Cancel` never returns -/
theorem C12_witness_old_zero_inflight :
    (Old.run [.cancelCall, .cancelRet]).returned = false ∧ (Old.run [.cancelCall, .cancelRet]).waiting = true := by
  decide

/-- two runs in flight: the second returning `Run` closes a closed channel -/
theorem C12_witness_old_two_inflight :
    (Old.run [.enter, .enter, .cancelCall, .exit, .exit]).panicked = true := by decide

/-- one run in flight is fine, but any later `Run` panics -/
theorem C12_witness_old_run_after_cancel :
    (Old.run [.enter, .cancelCall, .exit, .cancelRet]).returned = true ∧
    (Old.run [.enter, .cancelCall, .exit, .cancelRet, .enter, .exit]).panicked = true := by decide

/-! ## Non-vacuity: two runs in flight, cancel, both drain, cancel returns, a late run fails -/
def exTrace : List Act :=
  [.enter 0 2, .enter 1 1, .startCmd 0, .startCmd 1, .cancelCall 0, .endCmd 0 false, .endCmd 1 true,
   .finish 1, .cancelRet 0, .enter 2 1]
-- the hypothesis of `C12_wg_counts` holds of it (three runs), and the counter really moves
example : ∀ a ∈ exTrace, a.Below 3 := by
  intro a ha
  simp only [exTrace, List.mem_cons, List.not_mem_nil, or_false] at ha
  rcases ha with rfl | rfl | rfl | rfl | rfl | rfl | rfl | rfl | rfl | rfl <;> simp [Act.Below]
example : (run init (exTrace.take 4)).wg = 2 ∧ (run init exTrace).wg = 0 := by decide
example : (run init exTrace).cret 0 = true ∧ (run init exTrace).phase 0 = .done true ∧
    (run init exTrace).phase 1 = .done false ∧ (run init exTrace).phase 2 = .done true ∧
    (run init exTrace).started = [1, 0] := by decide

end Cancel
