import TaskctlVerif.Proofs.Layers
/-!
# C09 — environment and working directory are layered with a fixed precedence

Model: `Model/Layers.lean`.  Values are an arbitrary type `β`: the precedence theorems hold
**regardless of the values involved** (no ordering hypothesis) — which is exactly what failed before
the `fix:` commit (`C09_witness_old_value_order_decides`).
-/
namespace Layers
variable {β : Type}

/-- **C09 (environment precedence, all values)**: the value a command sees for name `k` is the one
of the highest level that defines it: variation, stage env, task env, env_file, (TASK_NAME),
context env, runner-level, parent process. -/
theorem C09_precedence (L : EnvLevels β) (name : β) (k : String) :
    get (procEnv L.parent (jobEnv L name)) k =
      (get L.variation k).or ((get L.stage k).or ((get L.task k).or ((get L.envFile k).or
        ((if k = "TASK_NAME" then some name else none).or
          ((get L.context k).or ((get L.runner k).or (get L.parent k))))))) := by
  simp only [jobEnv, get_procEnv, get_merge, get_withKey, Option.or_assoc]

/-- the highest defining level wins, whatever lower levels say and whatever the values are -/
theorem C09_variation_wins (L : EnvLevels β) (name : β) (k : String) (v : β)
    (h : get L.variation k = some v) : get (procEnv L.parent (jobEnv L name)) k = some v := by
  rw [C09_precedence, h]; rfl

theorem C09_stage_wins (L : EnvLevels β) (name : β) (k : String) (v : β)
    (h0 : get L.variation k = none) (h : get L.stage k = some v) :
    get (procEnv L.parent (jobEnv L name)) k = some v := by
  rw [C09_precedence, h0, h]; rfl

theorem C09_task_wins (L : EnvLevels β) (name : β) (k : String) (v : β)
    (h0 : get L.variation k = none) (h1 : get L.stage k = none) (h : get L.task k = some v) :
    get (procEnv L.parent (jobEnv L name)) k = some v := by
  rw [C09_precedence, h0, h1, h]; rfl

theorem C09_envfile_wins (L : EnvLevels β) (name : β) (k : String) (v : β)
    (h0 : get L.variation k = none) (h1 : get L.stage k = none) (h2 : get L.task k = none)
    (h : get L.envFile k = some v) : get (procEnv L.parent (jobEnv L name)) k = some v := by
  rw [C09_precedence, h0, h1, h2, h]; rfl

theorem C09_context_wins (L : EnvLevels β) (name : β) (k : String) (v : β) (hk : k ≠ "TASK_NAME")
    (h0 : get L.variation k = none) (h1 : get L.stage k = none) (h2 : get L.task k = none)
    (h3 : get L.envFile k = none) (h : get L.context k = some v) :
    get (procEnv L.parent (jobEnv L name)) k = some v := by
  rw [C09_precedence, h0, h1, h2, h3, h]; simp [hk]

/-- **names that nothing overrides pass through from the parent process unchanged** -/
theorem C09_passthrough (L : EnvLevels β) (name : β) (k : String) (hk : k ≠ "TASK_NAME")
    (h0 : get L.variation k = none) (h1 : get L.stage k = none) (h2 : get L.task k = none)
    (h3 : get L.envFile k = none) (h4 : get L.context k = none) (h5 : get L.runner k = none) :
    get (procEnv L.parent (jobEnv L name)) k = get L.parent k := by
  rw [C09_precedence, h0, h1, h2, h3, h4, h5]; simp [hk]

/-- **TASK_NAME carries the task's name** (unless the task itself, its env_file, stage or variation
redefines it) — in particular a TASK_NAME inherited from the parent or set by the context loses -/
theorem C09_task_name (L : EnvLevels β) (name : β)
    (h0 : get L.variation "TASK_NAME" = none) (h1 : get L.stage "TASK_NAME" = none)
    (h2 : get L.task "TASK_NAME" = none) (h3 : get L.envFile "TASK_NAME" = none) :
    get (procEnv L.parent (jobEnv L name)) "TASK_NAME" = some name := by
  rw [C09_precedence, h0, h1, h2, h3]; rfl

/-- **working directory**: the decision table of the three dir levels -/
theorem C09_dir (stage task ctx start : String) :
    (stage ≠ "" → jobDir stage task ctx start = stage) ∧
    (stage = "" → task ≠ "" → jobDir stage task ctx start = task) ∧
    (stage = "" → task = "" → ctx ≠ "" → jobDir stage task ctx start = ctx) ∧
    (stage = "" → task = "" → ctx = "" → jobDir stage task ctx start = start) := by
  refine ⟨?_, ?_, ?_, ?_⟩ <;> intros <;> simp_all [jobDir]

/-! ## Regression witness for defect D5 (fixed): before the fix the *values* decided -/
theorem C09_witness_old_value_order_decides :
    procGetOld [("VAL", 13)] [("VAL", 1)] "VAL" = some 13 ∧          -- parent 13 beat task 1
    procGetOld [("VAL", 13)] [("VAL", 26)] "VAL" = some 26 ∧         -- … but lost to task 26
    get (procEnv [("VAL", 13)] [("VAL", 1)]) "VAL" = some 1 := by decide

/-! ## Non-vacuity -/
def exLevels : EnvLevels Nat :=
  { parent := [("VAL", 9), ("HOME", 1)], runner := [("ARGS", 0)], context := [("VAL", 8)], envFile := [],
    task := [("VAL", 3)], stage := [], variation := [] }
example : get (procEnv exLevels.parent (jobEnv exLevels 77)) "VAL" = some 3 ∧
    get (procEnv exLevels.parent (jobEnv exLevels 77)) "HOME" = some 1 ∧
    get (procEnv exLevels.parent (jobEnv exLevels 77)) "TASK_NAME" = some 77 := by decide

end Layers
