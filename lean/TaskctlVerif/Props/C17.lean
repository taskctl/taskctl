import TaskctlVerif.Proofs.Imports
import TaskctlVerif.Proofs.GlobalCfg
/-!
# C17 — imports load every reachable file once; cycles terminate; broken imports fail

Model: `Model/Imports.lean`.  All theorems hold for **every** import structure on any number of files
— self-imports, mutual imports, repeated imports, diamonds.  The merge itself (`mergo` with
override + append-slice: third-party) is abstracted to the list of contributing files; directory
imports reduce to file imports (`C17_dir_reduces`).  The global configuration next to the project's
(`Model/GlobalCfg.lean`) is at the end: `C17_global_union`, `C17_global_value` (that its variables
reach the tasks is `Vars.C10_global_reaches_tasks`).
-/
namespace Imports

/-- **loading terminates for any import structure**: the recursion never needs more depth than the
number of files (the model's fuel `n + 1` is never exhausted) -/
theorem C17_terminates (fs : FS) (n r : Nat) (hc : Closed fs n) (hr : r < n) :
    loadRoot fs n r ≠ .outOfFuel := by
  refine load_fuel fs n hc (n + 1) [] r hr List.not_mem_nil (Nat.lt_succ_of_le ?_)
  exact Nat.le_trans (Graph.cnt_le _ _) (Nat.le_of_eq List.length_range)

/-- **the result contains the definitions of every file reachable through imports, each taken
once**: on success the contributing files are exactly the import closure of the root, without
repetition, and every one of them could be read and parsed -/
theorem C17_reachable_once (fs : FS) (n r : Nat) (vis c : List Nat)
    (h : loadRoot fs n r = .ok vis c) :
    c.Nodup ∧ (∀ x, x ∈ c ↔ Reach fs r x) ∧ (∀ x ∈ c, fs.status x = .ok) := by
  obtain ⟨hs, hvis, hreach⟩ : Spec fs (Reach fs r) [] [r] (.ok vis c) := h ▸ loadRoot_spec fs n r
  -- nothing was visited before, so the visited files are the contributing ones
  have hvc : ∀ x, x ∈ vis → x ∈ c := fun x hx => ((hs.visited x).mp hx).resolve_left List.not_mem_nil
  refine ⟨hs.nodup, fun x => ⟨hreach x, ?_⟩, fun x hx => (hs.closed x hx).1⟩
  exact Reach.closed (fun a b ha e => hvc b ((hs.closed a ha).2 b e.2)) (hvc r (hvis r (List.mem_singleton_self r)))

/-- **if a file in the closure is missing or cannot be parsed, loading fails** — and only then -/
theorem C17_broken_fails_iff (fs : FS) (n r : Nat) (hc : Closed fs n) (hr : r < n) :
    loadRoot fs n r = .err ↔ ∃ x, Reach fs r x ∧ fs.status x ≠ .ok := by
  constructor
  · intro h
    exact (h ▸ loadRoot_spec fs n r : Spec fs (Reach fs r) [] [r] .err)
  · rintro ⟨x, hx, hbad⟩
    cases hres : loadRoot fs n r with
    | outOfFuel => exact absurd hres (C17_terminates fs n r hc hr)
    | err => rfl
    | ok vis c =>
      have := C17_reachable_once fs n r vis c hres
      exact absurd (this.2.2 x ((this.2.1 x).mpr hx)) hbad

/-- a missing or unparsable file that nothing reachable imports does no harm -/
theorem C17_unreachable_harmless (fs : FS) (n r : Nat) (hc : Closed fs n) (hr : r < n)
    (hok : ∀ x, Reach fs r x → fs.status x = .ok) :
    ∃ vis c, loadRoot fs n r = .ok vis c := by
  cases hres : loadRoot fs n r with
  | outOfFuel => exact absurd hres (C17_terminates fs n r hc hr)
  | err =>
    obtain ⟨x, hx, hbad⟩ := (C17_broken_fails_iff fs n r hc hr).mp hres
    exact absurd (hok x hx) hbad
  | ok vis c => exact ⟨vis, c, rfl⟩

/-! ## Directory imports reduce to file imports -/

theorem loadList_append (ld : List Nat → Nat → Res) (xs ys : List Nat) : ∀ vis,
    loadList ld vis (xs ++ ys) =
      match loadList ld vis xs with
      | .ok vis' c =>
        match loadList ld vis' ys with
        | .ok vis'' c' => .ok vis'' (c ++ c')
        | r => r
      | r => r := by
  show ∀ vis, _ = (loadList ld vis xs).andThen (loadList ld · ys)
  induction xs with
  | nil => exact fun vis => (Res.ok_nil_andThen ..).symm
  | cons x xs ih =>
    intro vis
    simp only [List.cons_append, loadList_cons, ih]
    split
    · rfl
    · rw [Res.andThen_assoc]

theorem loadDirD_eq (ld : List Nat → Nat → Res) (fs : List Nat) : ∀ vis,
    loadDirD ld vis fs = loadList ld vis fs := by
  induction fs with
  | nil => exact fun _ => rfl
  | cons v rest ih => exact fun vis => by simp only [loadDirD, loadList, ih]

theorem loadListD_eq (ld : List Nat → Nat → Res) (es : List Entry) : ∀ vis,
    loadListD ld vis es = loadList ld vis (expand es) := by
  induction es with
  | nil => exact fun _ => rfl
  | cons e rest ih =>
    intro vis
    cases e with
    | file v => simp only [loadListD, expand, loadList, ih]
    | dir fs => simp only [loadListD, expand, loadDirD_eq, ih]; exact (loadList_append ..).symm

/-- **directory imports**: loading a tree in which files import files *and directories* gives, for
every fuel, visited set and file, exactly what loading the same tree with each directory import
written out as the (sorted) list of its `*.yaml` files gives.  Every theorem of this file therefore
speaks about directory imports as well: termination on any structure, the closure taken once,
failure exactly when a file of the closure - reached through a directory or not - is broken. -/
theorem C17_dir_reduces (fs : FSD) : ∀ (fuel : Nat) (vis : List Nat) (f : Nat),
    loadD fs fuel vis f = load fs.flat fuel vis f := by
  intro fuel
  induction fuel with
  | zero => exact fun _ _ => rfl
  | succ k ih =>
    intro vis f
    have : loadD fs k = load fs.flat k := funext fun v => funext (ih v)
    simp only [loadD, load, this, loadListD_eq]
    rfl

-- file 0 imports the directory holding 1 and 2 and then file 2 again; 2 imports 0: each taken once
example : loadD { entries := fun f => if f = 0 then [.dir [1, 2], .file 2] else if f = 2 then [.file 0] else [],
                  status := fun _ => .ok } 4 [] 0 = .ok [2, 1, 0] [0, 1, 2] := by decide
-- a dangling entry in the imported directory makes loading fail
example : loadD { entries := fun f => if f = 0 then [.dir [1, 2]] else [],
                  status := fun f => if f = 2 then .missing else .ok } 4 [] 0 = .err := by decide

/-! ## Non-vacuity: three files importing each other in a cycle with a self-import and a repeat -/
def exFS : FS := { imports := fun f => if f = 0 then [1, 1, 0] else if f = 1 then [2] else if f = 2 then [0, 1] else [],
                   status := fun f => if f = 3 then .missing else .ok }
example : loadRoot exFS 4 0 = .ok [2, 1, 0] [0, 1, 2] := by decide
-- the hypotheses of the theorems hold of it: the tree is closed under imports, the root is one of its files
example : Closed exFS 4 := by unfold Closed; decide
example : loadRoot { exFS with status := fun f => if f = 2 then .unparsable else .ok } 4 0 = .err := by decide

end Imports

/-! ## The global configuration next to the project's (`Model/GlobalCfg.lean`) -/
namespace GlobalCfg

/-- **every definition of the global file and of the project file is available**: in each section
the names a project sees are exactly those of the global configuration together with its own - for
every split of the definitions between the two files (conflicting names included) -/
theorem C17_global_union {α} (g p : Cfg α) (k : String) :
    (k ∈ keys (load g p).tasks ↔ k ∈ keys g.tasks ∨ k ∈ keys p.tasks) ∧
    (k ∈ keys (load g p).contexts ↔ k ∈ keys g.contexts ∨ k ∈ keys p.contexts) ∧
    (k ∈ keys (load g p).variables ↔ k ∈ keys g.variables ∨ k ∈ keys p.variables) := by
  rw [load, merge_empty]
  exact ⟨mem_keys_mergeKeep .., mem_keys_mergeKeep .., mem_keys_mergeOver ..⟩

/-- a definition is the one its file gives when the other file does not define the name (what
`mergo` makes of two definitions with the same name - it fills the empty fields of the first from the
second - is not modelled: the property is about non-conflicting definitions) -/
theorem C17_global_value {α} (g p : Cfg α) (kv : String × α) :
    (kv ∈ g.tasks → kv.1 ∉ keys p.tasks → kv ∈ (load g p).tasks) ∧
    (kv ∈ p.tasks → kv.1 ∉ keys g.tasks → kv ∈ (load g p).tasks) ∧
    (kv ∈ p.variables → kv.1 ∉ keys g.variables → kv ∈ (load g p).variables) ∧
    (kv ∈ g.variables → kv.1 ∉ keys p.variables → kv ∈ (load g p).variables) := by
  rw [load, merge_empty]
  exact ⟨fun h _ => mem_mergeKeep.mpr (.inl h), fun h hn => mem_mergeKeep.mpr (.inr ⟨h, hn⟩),
    fun h _ => mem_mergeOver.mpr (.inr h), fun h hn => mem_mergeOver.mpr (.inl ⟨h, hn⟩)⟩

example : keys (load (α := Nat) { tasks := [("a", 1)], contexts := [], variables := [("v", 1)] }
    { tasks := [("b", 2), ("a", 3)], contexts := [("c", 4)], variables := [("v", 5), ("w", 6)] }).tasks = ["a", "b"] := by decide

end GlobalCfg

