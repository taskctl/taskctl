import TaskctlVerif.Model.Capture
import TaskctlVerif.Proofs.Runner
import TaskctlVerif.Props.C01
/-!
# C11 — a task's output is captured exactly and handed to the stages that depend on it

Models: `Model/Capture.lean` over the task-run model (`Model/Runner.lean`) and the scheduler model
(`Model/Sched.lean`).  The byte plumbing itself (`io.MultiWriter`, `bytes.Buffer`, the OS
environment, NUL bytes) is runtime: exercised by the correspondence run, not proved.
-/
namespace Capture
open Runner

section
variable (outOf : Nat → Nat → CmdOut)

theorem captured_append (a b : List Tok) :
    captured outOf (a ++ b) = captured outOf a ++ captured outOf b :=
  List.flatMap_append

theorem captured_cmds (js : List (Nat × Nat)) :
    captured outOf (js.map cmdTok) = js.flatMap (fun p => (outOf p.1 p.2).stdout) :=
  List.flatMap_map ..

theorem captured_condToks (t : TaskSpec) : captured outOf (condToks t) = [] := by
  unfold condToks; split <;> rfl

theorem captured_beforeToks (t : TaskSpec) : captured outOf (beforeToks t) = [] :=
  (List.flatMap_map ..).trans (List.flatMap_eq_nil_iff.mpr fun _ _ => rfl)

theorem captured_runAfter (i : Nat) (as : List CmdResult) : captured outOf (runAfter i as) = [] := by
  induction as generalizing i with
  | nil => rfl
  | cons r as ih => rw [runAfter, captured_append, ih]; split <;> rfl

end

/-- **the captured output is exactly the bytes the commands wrote to standard output, in order,
across all commands and variations** — for a task that finishes successfully or with allowed
failures (no job ends the execution early); hooks and the condition contribute nothing. -/
theorem C11_exact (t : TaskSpec) (outOf : Nat → Nat → CmdOut) (hc : condOk t)
    (hb : ∀ r ∈ t.before, r.ok = true)
    (hns : ∀ p ∈ jobs t, stops t.allow (t.res p.1 p.2) = false) :
    captured outOf (runTask t).trace = (jobs t).flatMap (fun p => (outOf p.1 p.2).stdout) := by
  simp only [runTask_no_stop t hc hb hns, captured_append, captured_condToks, captured_beforeToks,
    captured_cmds, captured_runAfter, List.nil_append, List.append_nil]

/-- within a task every command can read the previous command's output as `.Output` -/
theorem C11_output_chain (outOf : Nat → Nat → CmdOut) (js : List (Nat × Nat)) (k v j : Nat)
    (h : js[k]? = some (v, j)) : outputVar outOf js (k + 1) = (outOf v j).combined ∧
    outputVar outOf js 0 = [] :=
  ⟨by rw [outputVar, h], rfl⟩

theorem isWord_iff (b : Nat) : isWord b = true ↔
    (97 ≤ b ∧ b ≤ 122) ∨ (65 ≤ b ∧ b ≤ 90) ∨ (48 ≤ b ∧ b ≤ 57) ∨ b = 95 := by
  simp only [isWord, Bool.or_eq_true, Bool.and_eq_true, decide_eq_true_eq, beq_iff_eq, or_assoc]
  exact or_left_comm.trans ((or_congr_right or_left_comm).trans or_left_comm)

/-- one byte of the derived name: upper-casing a letter gives a word character; nothing else
becomes a lower-case letter -/
theorem envByte_eq (b : Nat) :
    (if isWord (upper b) then upper b else 95) =
      if 97 ≤ b ∧ b ≤ 122 then b - 32
      else if (65 ≤ b ∧ b ≤ 90) ∨ (48 ≤ b ∧ b ≤ 57) ∨ b = 95 then b else 95 := by
  unfold upper
  by_cases hl : 97 ≤ b ∧ b ≤ 122
  · rw [if_pos hl, if_pos hl, if_pos ((isWord_iff (b - 32)).mpr (.inr (.inl (by omega))))]
  · simp only [hl, ↓reduceIte, isWord_iff, false_or]

/-- **the derived name contains only `A-Z`, `0-9`, `_`** … -/
theorem C11_envname_charset (name : Bytes) :
    ∀ b ∈ envName name, (65 ≤ b ∧ b ≤ 90) ∨ (48 ≤ b ∧ b ≤ 57) ∨ b = 95 := by
  intro b hb
  rcases List.mem_append.mp hb with hb | hb
  · obtain ⟨a, _, rfl⟩ := List.mem_map.mp hb
    rw [envByte_eq]
    split
    · exact .inl (by omega)
    · split
      · assumption
      · exact .inr (.inr rfl)
  · exact (by decide : ∀ b ∈ suffix, (65 ≤ b ∧ b ≤ 90) ∨ (48 ≤ b ∧ b ≤ 57) ∨ b = 95) b hb

/-- … and is the stated map: letters upper-cased, digits and `_` kept, anything else `_`, then
`_OUTPUT` -/
theorem C11_envname_map (name : Bytes) (i : Nat) (b : Nat) (h : name[i]? = some b) :
    (envName name)[i]? = some (
      if 97 ≤ b ∧ b ≤ 122 then b - 32
      else if (65 ≤ b ∧ b ≤ 90) ∨ (48 ≤ b ∧ b ≤ 57) ∨ b = 95 then b
      else 95) ∧
    (envName name).length = name.length + 7 := by
  have hi := (List.getElem?_eq_some_iff.mp h).1
  constructor
  · rw [envName, List.getElem?_append_left (by rwa [List.length_map]), List.getElem?_map, h,
      Option.map_some, envByte_eq]
  · rw [envName, List.length_append, List.length_map]; rfl

/-- `exportAs` replaces the derived name -/
theorem C11_export_as (name e : Bytes) : key name (some e) = e ∧ key name none = envName name :=
  ⟨rfl, rfl⟩

/-- **the output is published iff the task finished successfully or with allowed failures** -/
theorem C11_store_iff (t : TaskSpec) :
    stored t = true ↔ (runTask t).err = false ∧ (runTask t).skipped = false := by
  simp [stored]

/-- no job ends the execution early: the output is published -/
theorem stored_of_no_stop (t : TaskSpec) (hc : condOk t) (hb : ∀ r ∈ t.before, r.ok = true)
    (hns : ∀ p ∈ jobs t, stops t.allow (t.res p.1 p.2) = false) : stored t = true := by
  rw [stored, runTask_no_stop t hc hb hns]; rfl

theorem C11_stored_when_allowed (t : TaskSpec) (hallow : t.allow = true) (hc : condOk t)
    (hb : ∀ r ∈ t.before, r.ok = true) (hexit : ∀ p ∈ jobs t, ∃ n, t.res p.1 p.2 = .exit n) :
    stored t = true := by
  refine stored_of_no_stop t hc hb fun p hp => ?_
  obtain ⟨n, hn⟩ := hexit p hp
  rw [hn, hallow, stops, Bool.not_true, Bool.and_false]

/-! ## Dependants see it, under every interleaving -/

section
open Sched

/-- a stage's task starts only at the loop's decision for it -/
theorem unstarted_stable {c : Cfg} {σ : St} {a : Act} {x : Nat} (h0 : σ.g x = .none)
    (hn : ¬(a = .decide ∧ σ.pc = .check x [] true)) : (step c σ a).g x = .none := by
  cases a <;> simp only [step] <;> (repeat' split) <;> first | exact h0 | grind

variable (c : Cfg) (keyOf out : Nat → Nat)

/-- the three things a step of the composition can be: a `Run` returns without error and publishes;
the loop starts a stage, which takes its snapshot; anything else only moves the scheduler -/
theorem cstep_cases (σ : CSt) (a : Act) :
    (∃ p, a = .ret p true ∧ σ.s.g p = .inRun ∧ cstep c keyOf out σ a =
      { σ with s := step c σ.s a, renv := upd σ.renv (keyOf p) (some (out p)),
               stored := upd σ.stored p true }) ∨
    (∃ x, a = .decide ∧ σ.s.pc = .check x [] true ∧ cstep c keyOf out σ a =
      { σ with s := step c σ.s a, snap := upd σ.snap x σ.renv }) ∨
    ((∀ x, ¬(a = .decide ∧ σ.s.pc = .check x [] true)) ∧
      cstep c keyOf out σ a = { σ with s := step c σ.s a }) := by
  cases a with
  | ret p ok =>
    by_cases h : σ.s.g p = .inRun ∧ ok = true
    · exact .inl ⟨p, h.2 ▸ rfl, h.1, if_pos h⟩
    · exact .inr (.inr ⟨nofun, if_neg h⟩)
  | decide =>
    unfold cstep
    dsimp only
    split
    · exact .inr (.inl ⟨_, rfl, ‹_›, rfl⟩)
    · exact .inr (.inr ⟨fun x hx => ‹∀ x, σ.s.pc = .check x [] true → False› x hx.2, rfl⟩)
  | _ => exact .inr (.inr ⟨nofun, rfl⟩)

/-- what holds of the store in every reachable state: a published output is in the runner
environment under its producer's name, and the snapshot of a started stage has the output of every
dependency that published -/
structure CInv (σ : CSt) : Prop where
  inv    : Inv c σ.s
  store  : ∀ p, σ.stored p = true → σ.renv (keyOf p) = some (out p)
  seen   : ∀ x, σ.s.g x ≠ .none → ∀ p ∈ c.deps x, σ.stored p = true → σ.snap x (keyOf p) = some (out p)

theorem cinv_init : CInv c keyOf out cinit :=
  ⟨inv_init c, nofun, fun _ h => absurd rfl h⟩

theorem cinv_step (hinj : ∀ a b, keyOf a = keyOf b → a = b)
    (σ : CSt) (a : Act) (h : CInv c keyOf out σ) : CInv c keyOf out (cstep c keyOf out σ a) := by
  obtain ⟨hinv, hstore, hseen⟩ := h
  have hinv' := inv_step c σ.s a hinv
  -- a stage that is started after the step was started before it, unless the step is its start
  have hback : ∀ x, (step c σ.s a).g x ≠ .none → ¬(a = .decide ∧ σ.s.pc = .check x [] true) →
      σ.s.g x ≠ .none := fun x h1 hnd h0 => h1 (unstarted_stable h0 hnd)
  rcases cstep_cases c keyOf out σ a with ⟨p0, rfl, hg, he⟩ | ⟨x0, rfl, hpc, he⟩ | ⟨hnd, he⟩ <;> rw [he]
  · refine ⟨hinv', fun p hp => ?_, fun x hx p hpx hp => ?_⟩ <;> dsimp only at hp ⊢
    · by_cases hpp : p = p0
      · rw [hpp]; exact upd_same ..
      · rw [upd_other _ _ _ _ fun e => hpp (hinj _ _ e)]
        exact hstore p (by rwa [upd_other _ _ _ _ hpp] at hp)
    · have hx0 := hback x hx nofun
      by_cases hpp : p = p0
      · -- `p0` is a dependency of the already started `x`: it is satisfied, hence not in `Run`
        subst hpp
        exact absurd hg ((hinv.coh p).of_ok (hinv.started x hx0 p hpx)).2.2
      · exact hseen x hx0 p hpx (by rwa [upd_other _ _ _ _ hpp] at hp)
  · refine ⟨hinv', hstore, fun x hx p hpx hp => ?_⟩
    dsimp only at hp ⊢
    by_cases hxx : x = x0
    · rw [hxx, upd_same]; exact hstore p hp
    · rw [upd_other _ _ _ _ hxx]
      refine hseen x (hback x hx fun h => hxx ?_) p hpx hp
      cases hpc.symm.trans h.2; rfl
  · exact ⟨hinv', hstore, fun x hx => hseen x (hback x hx (hnd x))⟩

theorem cinv_run (hinj : ∀ a b, keyOf a = keyOf b → a = b) (as : List Act) :
    CInv c keyOf out (crun c keyOf out cinit as) :=
  List.foldlRecOn as _ (cinv_init c keyOf out) fun σ h a _ => cinv_step c keyOf out hinj σ a h

end

open Sched in
/-- **every stage that depends on a task sees its output, in every interleaving**: when stage `x`
started, the snapshot of the runner environment its `Run` works with maps the producer's variable to
the producer's captured output — for every dependency `p` whose `Run` returned without error, given
that distinct producers publish under distinct names (`a-b` and `a_b` collide: last writer wins). -/
theorem C11_dependants_see (c : Cfg) (keyOf out : Nat → Nat) (hinj : ∀ a b, keyOf a = keyOf b → a = b)
    (as : List Act) (x p : Nat) (hp : p ∈ c.deps x)
    (hx : (crun c keyOf out cinit as).s.g x ≠ .none)
    (hs : (crun c keyOf out cinit as).stored p = true) :
    (crun c keyOf out cinit as).snap x (keyOf p) = some (out p) :=
  (cinv_run c keyOf out hinj as).seen x hx p hp hs

/-! ## Non-vacuity -/
example : envName [97, 45, 98] = [65, 95, 66, 95, 79, 85, 84, 80, 85, 84] := by decide   -- "a-b" ↦ "A_B_OUTPUT"
example : (crun Sched.exCfg (fun p => p) (fun p => 100 + p) cinit
    [.visit 0, .decide, .ret 0 true, .visit 1, .read, .decide]).snap 1 0 = some 100 := by decide

end Capture
