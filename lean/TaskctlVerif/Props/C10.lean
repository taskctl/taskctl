import TaskctlVerif.Model.Vars
import TaskctlVerif.Model.VarsHeap
import TaskctlVerif.Proofs.Layers
import TaskctlVerif.Props.C07
import TaskctlVerif.Proofs.Derived
/-!
# C10 — template variables and CLI arguments reach commands with a fixed precedence

Models: `Model/Vars.lean` (levels), `Model/Cli.lean` (`targetsOf` / `taskArgs`), `Model/Runner.lean`
(`norender`), `Model/VarsHeap.lean` (the container the levels are built from), `Model/Derived.lean`
(values that are templates over other variables).
-/
namespace Vars
open Layers
variable {β : Type}

/-- **precedence, all values**: stage variables, then task variables, then the CLI built-ins `Args`
/ `ArgsList`, then `--set`, then `Root`, then the project file, the global file, the defaults. -/
theorem C10_precedence (L : VarLevels β) (k : String) :
    get (taskVars L) k =
      (get L.stage k).or ((get L.task k).or
        ((if k = "ArgsList" then some L.argsList else none).or
        ((if k = "Args" then some L.args else none).or
        ((get L.set k).or ((if k = "Root" then some L.root else none).or
        ((get L.project k).or ((get L.globalF k).or (get L.defaults k)))))))) := by
  simp only [taskVars, runnerVars, cfgVars, get_merge, get_withKey]

/-- the four documented levels, for a name that is not a built-in: configuration < --set < task < stage -/
theorem C10_four_levels (L : VarLevels β) (k : String) (hb : k ≠ "ArgsList" ∧ k ≠ "Args" ∧ k ≠ "Root") :
    get (taskVars L) k =
      (get L.stage k).or ((get L.task k).or ((get L.set k).or
        ((get L.project k).or ((get L.globalF k).or (get L.defaults k))))) := by
  simp only [C10_precedence, if_neg hb.1, if_neg hb.2.1, if_neg hb.2.2, Option.none_or]

theorem C10_stage_wins (L : VarLevels β) (k : String) (v : β) (h : get L.stage k = some v) :
    get (taskVars L) k = some v := by rw [C10_precedence, h]; rfl

theorem C10_config_reaches_tasks (L : VarLevels β) (k : String) (v : β)
    (hb : k ≠ "ArgsList" ∧ k ≠ "Args" ∧ k ≠ "Root")
    (h0 : get L.stage k = none) (h1 : get L.task k = none) (h2 : get L.set k = none)
    (h : get L.project k = some v) : get (taskVars L) k = some v := by
  rw [C10_four_levels L k hb, h0, h1, h2, h]; rfl

theorem C10_global_reaches_tasks (L : VarLevels β) (k : String) (v : β)
    (hb : k ≠ "ArgsList" ∧ k ≠ "Args" ∧ k ≠ "Root")
    (h0 : get L.stage k = none) (h1 : get L.task k = none) (h2 : get L.set k = none)
    (h3 : get L.project k = none) (h : get L.globalF k = some v) : get (taskVars L) k = some v := by
  rw [C10_four_levels L k hb, h0, h1, h2, h3, h]; rfl

/-- **the built-ins are always defined** (`TempDir` provided the defaults carry it, as they do) -/
theorem C10_builtins (L : VarLevels β) (td : β) (h : get L.defaults "TempDir" = some td) :
    (get (taskVars L) "Root").isSome ∧ (get (taskVars L) "Args").isSome ∧
    (get (taskVars L) "ArgsList").isSome ∧ (get (taskVars L) "TempDir").isSome := by
  -- every chain contains a level that is always defined
  simp [C10_precedence, h]

end Vars

namespace Cli

/-- the command line from its first `--` on -/
theorem dropWhile_dashes (argv : List String) :
    argv.dropWhile (· != "--") = if "--" ∈ argv then "--" :: taskArgs argv else [] := by
  unfold taskArgs
  induction argv with
  | nil => rfl
  | cons a as ih =>
    by_cases ha : a = "--"
    · simp [ha]
    · simpa [ha, Ne.symm ha] using ih

/-- **everything after `--` reaches the tasks verbatim and in order** — including words equal to
target names, containing `=`, starting with `-`, or equal to `--` -/
theorem C10_args_verbatim (pre post : List String) (h : ∀ a ∈ pre, a ≠ "--") :
    taskArgs (pre ++ "--" :: post) = post ∧ targetsOf (pre ++ "--" :: post) = pre := by
  refine ⟨?_, C07_cli_targets_before_dashes pre post h⟩
  rw [taskArgs, List.dropWhile_append_of_pos fun a ha => bne_iff_ne.mpr (h a ha)]
  simp

/-- the command line is split without loss: targets, `--`, arguments -/
theorem C10_args_partition (argv : List String) (h : "--" ∈ argv) :
    targetsOf argv ++ "--" :: taskArgs argv = argv := by
  have := List.takeWhile_append_dropWhile (p := (· != "--")) (l := argv)
  rwa [dropWhile_dashes, if_pos h] at this

/-- **nothing after `--` is ever treated as a target** -/
theorem C10_args_never_targets (ok : String → Bool) (pre post : List String) (h : ∀ a ∈ pre, a ≠ "--") :
    (cli ok (pre ++ "--" :: post)).1 = (runTargets ok pre).1 := by
  rw [cli, (C10_args_verbatim pre post h).2]

/-- without `--` there are no task arguments -/
theorem C10_no_dashes_no_args (argv : List String) (h : "--" ∉ argv) : taskArgs argv = [] := by
  rw [taskArgs, dropWhile_dashes, if_neg h]; rfl

example : taskArgs ["t", "--", "a", "--", "b"] = ["a", "--", "b"] := by decide
example : cli (fun t => t == "t") ["t", "--", "t", "nosuch"] = (["t"], 0) := by decide

end Cli

namespace Runner

/-- **a command that refers to an undefined variable makes the task fail before that command
executes**: the jobs before it ran normally, its own token is absent, nothing after it runs, the
task is errored — with or without allow_failure. -/
theorem C10_undefined_fails_before (t : TaskSpec) (pre post : List (Nat × Nat)) (v j : Nat)
    (hc : condOk t) (hb : ∀ r ∈ t.before, r.ok = true)
    (hjobs : jobs t = pre ++ (v, j) :: post)
    (hpre : ∀ p ∈ pre, (t.res p.1 p.2).ok = true) (hundef : t.res v j = .norender) :
    (runTask t).trace = condToks t ++ beforeToks t ++ pre.map cmdTok ∧
    (runTask t).errored = true ∧ (runTask t).err = true := by
  rw [runTask_stop t pre post v j hc hb hjobs (fun p hp => stops_of_ok _ (hpre p hp))
    (by rw [hundef]; rfl), hundef]
  exact ⟨List.append_nil _, rfl, rfl⟩

end Runner

/-! ## The variables container behaves like a plain map, and building a new one never touches the old
(`Model/VarsHeap.lean`) -/
namespace VarsHeap

/-- `Set` -/
theorem lookup_cset (c : Cont) (k v k' : String) :
    (cset c k v).lookup k' = if k' = k then some v else c.lookup k' := by
  rw [cset, Layers.lookup_cons_ite, Layers.lookup_filter_key (· != k)]
  by_cases h : k' = k <;> simp [h]

/-- `Merge`: the argument's binding if it has one, else the receiver's -/
theorem lookup_cmerge (dst src : Cont) (k : String) :
    (cmerge dst src).lookup k = (src.lookup k).or (dst.lookup k) := by
  induction src with
  | nil => rfl
  | cons e rest ih =>
    obtain ⟨a, b⟩ := e
    rw [show cmerge dst ((a, b) :: rest) = cset (cmerge dst rest) a b from rfl, lookup_cset, ih,
      Layers.lookup_cons_ite]
    split <;> rfl

/-- `With`: the new binding wins, everything else is the receiver's -/
theorem lookup_cwith (c : Cont) (k v k' : String) :
    (cwith c k v).lookup k' = if k' = k then some v else c.lookup k' := by
  simp [cwith, lookup_cset, lookup_cmerge]

/-- **the container is a map**: what `Get` and `Has` answer after `Set`, `Merge` and `With` -/
theorem C10_container_is_map (a b : Cont) (k v k' : String) :
    cget (cset a k v) k' = (if k' = k then v else cget a k') ∧
    cget (cmerge a b) k' = (if chas b k' then cget b k' else cget a k') ∧
    cget (cwith a k v) k' = (if k' = k then v else cget a k') ∧
    (chas (cmerge a b) k' = (chas b k' || chas a k')) ∧
    (chas (cwith a k v) k' = (decide (k' = k) || chas a k')) := by
  unfold cget chas
  rw [lookup_cset, lookup_cmerge, lookup_cwith]
  refine ⟨?_, ?_, ?_, ?_, ?_⟩
  · split <;> rfl
  · cases b.lookup k' <;> rfl
  · split <;> rfl
  · cases b.lookup k' <;> rfl
  · by_cases h : k' = k <;> simp [h]

/-- **building a new container never touches an existing one**: after any operation other than a
`Set` on container `i` itself, container `i` is what it was - `Merge` and `With` put their result
in a fresh container, `Get`, `Has` and `Map` change nothing -/
theorem C10_container_isolation (h : Heap) (op : Op) (i : Nat) (hi : i < h.length)
    (hne : ∀ k v, op ≠ .set i k v) : (step h op).1[i]? = h[i]? := by
  cases op with
  | new => exact List.getElem?_append_left hi
  | set c k v =>
    have hc : c ≠ i := fun hci => hne k v (hci ▸ rfl)
    simp only [step]
    split
    · exact List.getElem?_set_ne hc
    · rfl
  | merge a b | with_ c k v =>
    simp only [step]
    split
    · exact List.getElem?_append_left hi
    · rfl
  | get c k | has c k | dump c => simp only [step]; split <;> rfl

-- a chain as the runner builds it: runner env, a context's env merged over it, TASK_NAME set with With, the
-- task's env merged over that; the originals are untouched
example : (runOps [] [.new, .set 0 "A" "runner", .set 0 "TASK_NAME" "stale", .new, .set 1 "A" "context", .merge 0 1,
    .with_ 2 "TASK_NAME" "build", .get 3 "A", .get 3 "TASK_NAME", .get 0 "A", .get 0 "TASK_NAME", .has 1 "TASK_NAME"]).2 =
    ["0", "ok", "ok", "1", "ok", "2", "3", "=context", "=build", "=runner", "=stale", "no"] := by decide

end VarsHeap


/-! ## variables whose value is a template over other variables (`CompileTask`'s rendering loop) -/
namespace Derived
open Layers

/-- **Order independence.** The loop of `CompileTask` renders the values in place, in Go's map order. For a flat map
(references name plain values or nothing) whatever the order `ks` - any list of keys, with or without repetitions - a
loop that completes leaves, for every key it visited, the ORIGINAL value rendered against the ORIGINAL map, and every
other entry as it was. -/
theorem C10_derived_order_independent (m0 m' : Env Tmpl) (hf : Flat m0) (ks : List String) (h : loop m0 ks = some m') :
    ∀ k, get m' k = if k ∈ ks then rendered m0 k else get m0 k :=
  (loop_spec hf ks (inv_refl m0) h).2

/-- two orders over the same keys agree on every variable -/
theorem C10_derived_any_two_orders (m0 m1 m2 : Env Tmpl) (hf : Flat m0) (ks1 ks2 : List String)
    (hsame : ∀ k, k ∈ ks1 ↔ k ∈ ks2) (h1 : loop m0 ks1 = some m1) (h2 : loop m0 ks2 = some m2) :
    ∀ k, get m1 k = get m2 k := by
  intro k
  simp only [C10_derived_order_independent m0 _ hf _ h1, C10_derived_order_independent m0 _ hf _ h2, hsame]

/-- **Undefined variable.** The loop fails - and the task with it, before any command - exactly when a visited
variable refers with `{{ .Name }}` to a variable that is not defined (`render` is `none` for that form only; the `index`
forms print a placeholder), whatever the order. -/
theorem C10_derived_fails_iff (m0 : Env Tmpl) (hf : Flat m0) (ks : List String) :
    loop m0 ks = none ↔ ∃ k ∈ ks, ∃ t, get m0 k = some t ∧ render m0 t = none :=
  loop_none_iff hf ks (inv_refl m0)

/-- **Precedence inside a derived value.** What a reference resolves to is decided by the variables of the execution
itself: the stage's definition of the name, else the task's, else the runner's (configuration file, `--set`). -/
theorem C10_derived_lookup_precedence (runner task stage : Env Tmpl) (x : String) :
    get (execVars runner task stage) x = ((get stage x).or (get task x)).or (get runner x) := by
  simp [execVars, get_merge, Option.or_assoc]

/-- a reference to a name whose value is a literal prints that literal -/
theorem render_lit_ref (m : Env Tmpl) (x v a : String) (d : Option String) (h : get m x = some [.lit v]) :
    render m [.lit a, .ref x d] = some (a ++ v) := by
  simp [render, resolve_lit m x v d h]

theorem C10_derived_stage_wins (runner task stage : Env Tmpl) (x v a : String) (d : Option String) (h : get stage x = some [.lit v]) :
    render (execVars runner task stage) [.lit a, .ref x d] = some (a ++ v) :=
  render_lit_ref _ x v a d (by rw [C10_derived_lookup_precedence, h]; rfl)

theorem C10_derived_task_wins (runner task stage : Env Tmpl) (x v a : String) (d : Option String) (hs : get stage x = none)
    (h : get task x = some [.lit v]) :
    render (execVars runner task stage) [.lit a, .ref x d] = some (a ++ v) :=
  render_lit_ref _ x v a d (by rw [C10_derived_lookup_precedence, hs, h]; rfl)

/-- a name that no execution's output is stored under keeps its value through any history of executions -/
theorem history_get (r : Env Tmpl) (es : List Exec) (k : String) (h : ∀ e ∈ es, e.outName ≠ k) :
    get (History r es) k = get r k := by
  induction es generalizing r with
  | nil => rfl
  | cons e es ih =>
    rw [List.forall_mem_cons] at h
    rw [History, ih _ h.2, get_withKey, if_neg (Ne.symm h.1), Option.none_or]

/-- **History independence.** Whatever ran before on the same runner - other tasks, other stages of the same task,
direct runs - a value whose references are not names of stored outputs is rendered, in this execution, exactly as on
a fresh runner: nothing of an earlier execution's task or stage variables is left behind. -/
theorem C10_derived_history_independent (r task stage : Env Tmpl) (es : List Exec) (t : Tmpl)
    (h : ∀ e ∈ es, e.outName ∉ refs t) :
    render (execVars (History r es) task stage) t = render (execVars r task stage) t := by
  apply render_congr
  intro k hk d
  have hg : get (History r es) k = get r k := history_get r es k (fun e he hek => h e he (hek ▸ hk))
  simp [resolve, C10_derived_lookup_precedence, hg]

-- the hypotheses are satisfiable: a flat map with two derived values, rendered in two different orders
def exMap : Env Tmpl :=
  [("Greeting", [.lit "hello-", .ref "Who" none]), ("Who", [.lit "s1"]),
   ("Label", [.ref "deploy.target" (some "<no value>"), .lit "/", .ref "Who" none, .ref "absent" (some "")]),
   ("deploy.target", [.lit "prod"])]

example : flatB exMap = true := by decide
example : Flat exMap := flatB_flat exMap (by decide)
example : (loop exMap ["Greeting", "Who", "Label", "deploy.target"]).map (fun m => (get m "Greeting", get m "Label")) =
    some (some [.lit "hello-s1"], some [.lit "prod/s1"]) := by decide
example : (loop exMap ["deploy.target", "Label", "Who", "Greeting", "Who"]).map (fun m => (get m "Greeting", get m "Label")) =
    some (some [.lit "hello-s1"], some [.lit "prod/s1"]) := by decide
-- a reference to a variable nobody defines: the loop fails
example : loop (("Broken", [.ref "Nobody" none]) :: exMap) ["Who", "Broken"] = none := by decide
-- ... unless the reference is written with `index`, which prints a placeholder for a missing key
example : (loop (("Lenient", [.ref "Nobody" (some "<no value>")]) :: exMap) ["Lenient"]).map (fun m => get m "Lenient") =
    some (some [.lit "<no value>"]) := by decide
-- a NON-flat map (a reference to a value that is itself a template): the order decides in the code; the model refuses
example : flatB (("Outer", [.ref "Greeting" none]) :: exMap) = false := by decide

end Derived
