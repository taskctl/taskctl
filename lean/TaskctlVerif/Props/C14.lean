import TaskctlVerif.Model.CtxHooks
/-!
# C14 — execution-context hooks run the right number of times, in the right order

Model: `Model/CtxHooks.lean`.  Every theorem holds for any number of runs, any assignment of runs to
contexts, any `up` outcomes and **every interleaving** of the runs' hook commands (every action
list).  `log` is the sequence of hook/task executions, oldest first.

One inductive invariant `HInv` in two parts: `SInv` relates the cells of the state to each other; `LInv` says that
the log holds exactly the tokens the state accounts for (`logged`), each once, each after the token it needs (`pre`),
and nothing of a run after a `down`.
-/
namespace Hooks

/-! ## Guarded updates, tables, lists -/

/-- a guarded update preserves what the update itself preserves -/
theorem ite_invariant {α} (P : α → Prop) {c : Prop} [Decidable c] {s s' : α} (hs : P s) (h : c → P s') :
    P (if c then s' else s) := by
  split
  · exact h ‹c›
  · exact hs

/-- a pointwise property of a table survives a write whose value has it -/
theorem forall_upd {α} {P : Nat → α → Prop} {f : Nat → α} {k : Nat} {v : α}
    (hf : ∀ i, P i (f i)) (hv : P k v) : ∀ i, P i (upd f k v i) := by
  intro i
  unfold upd; split
  · next e => exact e ▸ hv
  · exact hf i

theorem upd_true {f : Nat → Bool} {i : Nat} (h : f i = true) (k : Nat) : upd f k true i = true :=
  forall_upd (P := fun i b => f i = true → b = true) (fun _ h => h) (fun _ => rfl) i h

theorem snoc_split {α} {l l1 l2 : List α} {x b : α} (h : l ++ [x] = l1 ++ b :: l2) :
    (l2 = [] ∧ l1 = l ∧ b = x) ∨ (∃ l2', l2 = l2' ++ [x] ∧ l = l1 ++ b :: l2') := by
  rcases List.eq_nil_or_concat l2 with rfl | ⟨l2', y, rfl⟩
  · obtain ⟨rfl, e⟩ := List.append_inj' h rfl
    cases e; exact .inl ⟨rfl, rfl, rfl⟩
  · rw [List.concat_eq_append, ← List.cons_append, ← List.append_assoc] at h
    obtain ⟨rfl, e⟩ := List.append_inj' h rfl
    cases e; exact .inr ⟨l2', List.concat_eq_append, rfl⟩

/-! ## Order in the log -/

/-- `a` occurs before every occurrence of `b` -/
def Precedes (a b : Tok) (l : List Tok) : Prop := ∀ l1 l2, l = l1 ++ b :: l2 → a ∈ l1

/-- nothing satisfying `P` occurs after an occurrence of `b` -/
def NoneAfter (P : Tok → Prop) (b : Tok) (l : List Tok) : Prop :=
  ∀ l1 l2, l = l1 ++ b :: l2 → ∀ t ∈ l2, ¬ P t

theorem precedes_snoc {a b x : Tok} {l : List Tok} (h : Precedes a b l) (hx : x = b → a ∈ l) :
    Precedes a b (l ++ [x]) := by
  intro l1 l2 e
  rcases snoc_split e with ⟨_, rfl, rfl⟩ | ⟨l2', _, e'⟩
  · exact hx rfl
  · exact h l1 l2' e'

theorem noneAfter_snoc {P : Tok → Prop} {b x : Tok} {l : List Tok} (h : NoneAfter P b l)
    (hx : b ∈ l → ¬ P x) : NoneAfter P b (l ++ [x]) := by
  intro l1 l2 e t ht
  rcases snoc_split e with ⟨rfl, _, _⟩ | ⟨l2', rfl, e'⟩
  · cases ht
  · rw [List.mem_append, List.mem_singleton] at ht
    rcases ht with ht | rfl
    · exact h l1 l2' e' t ht
    · exact hx (by rw [e']; simp)

/-! ## What the state says without the log -/

/-- the run has got past `Up()` successfully -/
def Pc.past : Pc → Bool
  | .passed | .ranBefore | .ranTask | .fin false => true
  | _ => false

/-- between `call` and the return of `Run` -/
def Pc.active : Pc → Prop
  | .idle | .fin _ => False
  | _ => True

theorem Pc.active.ne_idle {p : Pc} (h : p.active) : p ≠ .idle := fun e => by rw [e] at h; exact h

/-- `usedPc` carries `r < cfg.n` because `quiescent` looks at the runs below `cfg.n` only: when `beginFinish`
finds them quiet, this is what makes every run quiet (`finQuiet`), and with it `down` comes after everything. -/
structure SInv (cfg : Cfg) (σ : HS) : Prop where
  pastDone : ∀ r, (σ.pc r).past = true → σ.onceUp (cfg.ctxOf r) = .done ∧ σ.upErr (cfg.ctxOf r) = false
  doneErr  : ∀ c, σ.onceUp c = .done → σ.upErr c = cfg.upFails c
  downUsed : ∀ c, σ.downDone c = true → σ.used c = true ∧ σ.finishing = true
  usedPc   : ∀ r, σ.pc r ≠ .idle → σ.used (cfg.ctxOf r) = true ∧ r < cfg.n
  upUsed   : ∀ c, σ.onceUp c ≠ .fresh → σ.used c = true
  finQuiet : σ.finishing = true → ∀ r, ¬ (σ.pc r).active

section
variable {cfg : Cfg} {σ : HS}

theorem not_active_of_quiescent (h : quiescent cfg σ = true) {r : Nat} (hr : r < cfg.n) : ¬ (σ.pc r).active := by
  have := List.all_eq_true.1 h r (List.mem_range.2 hr)
  revert this
  cases σ.pc r <;> simp [Pc.active]

theorem SInv.not_finishing (h : SInv cfg σ) {r : Nat} (hr : (σ.pc r).active) : σ.finishing = false :=
  Bool.eq_false_iff.2 fun hf => h.finQuiet hf r hr

theorem SInv.no_down (h : SInv cfg σ) {r : Nat} (hr : (σ.pc r).active) (c : Nat) : σ.downDone c = false :=
  Bool.eq_false_iff.2 fun hd => Bool.eq_false_iff.1 (h.not_finishing hr) (h.downUsed c hd).2

/-- a run that is under way moves on to `p`; `SInv` does not read the log, so `l` is any: the lemma serves the
actions that log something as well -/
theorem SInv.setPc (h : SInv cfg σ) {r : Nat} (p : Pc) (l : List Tok) (hr : (σ.pc r).active)
    (hpast : p.past = true → σ.onceUp (cfg.ctxOf r) = .done ∧ σ.upErr (cfg.ctxOf r) = false) :
    SInv cfg { σ with pc := upd σ.pc r p, log := l } :=
  { h with
    pastDone := forall_upd
      (P := fun r (p : Pc) => p.past = true → σ.onceUp (cfg.ctxOf r) = .done ∧ σ.upErr (cfg.ctxOf r) = false)
      h.pastDone hpast
    usedPc := forall_upd (P := fun r (p : Pc) => p ≠ .idle → σ.used (cfg.ctxOf r) = true ∧ r < cfg.n)
      h.usedPc fun _ => h.usedPc r hr.ne_idle
    finQuiet := fun hf => by rw [h.not_finishing hr] at hf; cases hf }

/-! ## What the state says of the log -/

/-- a hook or task execution belonging to some run (not `up`/`down`) -/
def isRunTok : Tok → Prop
  | .before _ _ | .task _ | .after _ _ => True
  | _ => False

/-- the tokens the log holds (each once), read off the state -/
def logged (cfg : Cfg) (σ : HS) : Tok → Bool
  | .up c => σ.onceUp c != .fresh
  | .before c r => c == cfg.ctxOf r && (σ.pc r == .ranBefore || σ.pc r == .ranTask || σ.pc r == .fin false)
  | .task r => σ.pc r == .ranTask || σ.pc r == .fin false
  | .after c r => c == cfg.ctxOf r && σ.pc r == .fin false
  | .down c => σ.downDone c

/-- the token that has to be in the log before this one is written -/
def pre (cfg : Cfg) : Tok → Option Tok
  | .before c _ => some (.up c)
  | .task r => some (.before (cfg.ctxOf r) r)
  | .after _ r => some (.task r)
  | _ => none

structure LInv (cfg : Cfg) (σ : HS) : Prop where
  count    : ∀ t, σ.log.count t = if logged cfg σ t then 1 else 0
  order    : ∀ a b, pre cfg b = some a → Precedes a b σ.log
  downLast : ∀ c, NoneAfter isRunTok (.down c) σ.log

theorem LInv.mem (h : LInv cfg σ) {t : Tok} : t ∈ σ.log ↔ logged cfg σ t = true := by
  rw [← List.count_pos_iff, h.count]; split <;> simp [*]

theorem LInv.count_le (h : LInv cfg σ) (t : Tok) : σ.log.count t ≤ 1 := by
  rw [h.count]; split <;> omega

theorem LInv.count_eq_one (h : LInv cfg σ) {t : Tok} : σ.log.count t = 1 ↔ logged cfg σ t = true := by
  rw [h.count]; split <;> simp [*]

/-- an action that logs nothing and moves no cell across a point where something is logged -/
theorem LInv.same {σ' : HS} (h : LInv cfg σ) (hl : σ'.log = σ.log) (hx : ∀ t, logged cfg σ' t = logged cfg σ t) :
    LInv cfg σ' :=
  ⟨fun t => by rw [hl, hx, h.count], hl ▸ h.order, hl ▸ h.downLast⟩

/-- an action that logs `x`: `x` is the one token the state newly says is logged, what has to come
before it is there, and if it belongs to a run no context has run `down` yet -/
theorem LInv.snoc {σ' : HS} {x : Tok} (h : LInv cfg σ) (hl : σ'.log = σ.log ++ [x])
    (hnew : logged cfg σ x = false) (hx : ∀ t, logged cfg σ' t = (logged cfg σ t || x == t))
    (hpre : ∀ a, pre cfg x = some a → logged cfg σ a = true)
    (hdown : isRunTok x → ∀ c, σ.downDone c = false) : LInv cfg σ' where
  count t := by
    rw [hl, List.count_append, List.count_singleton, h.count, hx]
    by_cases e : x = t
    · subst e; simp [hnew]
    · simp [e]
  order a b e := hl ▸ precedes_snoc (h.order a b e) fun ex => h.mem.2 (hpre a (ex ▸ e))
  downLast c := hl ▸ noneAfter_snoc (h.downLast c) fun hm hr => by
    rw [h.mem, show logged cfg σ (.down c) = _ from hdown hr c] at hm; cases hm

/-! ## Both hold in every reachable state -/

structure HInv (cfg : Cfg) (σ : HS) : Prop extends SInv cfg σ, LInv cfg σ

theorem hinv_init : HInv cfg init where
  toSInv := by constructor <;> simp [init, Pc.past, Pc.active]
  count t := by cases t <;> simp [logged, init]
  order _ _ _ l1 _ e := by cases l1 <;> cases e
  downLast _ l1 _ e := by cases l1 <;> cases e

theorem hinv_step (h : HInv cfg σ) (a : Act) : HInv cfg (step cfg σ a) := by
  have hs := h.toSInv
  have hl := h.toLInv
  -- every action is a guarded update: `hc` is its guard
  cases a <;> refine ite_invariant _ h fun hc => ?_
  -- In each case the first component re-proves the clauses of `SInv` that read a written cell; the second is
  -- `same` or `snoc`, whose argument `fun t => ..` checks, token kind by token kind, that the table `logged` of the
  -- new state is that of the old one, plus the appended token if there is one.
  case call r =>
    exact ⟨{ hs with
      pastDone := forall_upd
        (P := fun r (p : Pc) => p.past = true → σ.onceUp (cfg.ctxOf r) = .done ∧ σ.upErr (cfg.ctxOf r) = false)
        hs.pastDone nofun
      downUsed := fun c hd => by have := (hs.downUsed c hd).2; rw [hc.2.2] at this; cases this
      usedPc := fun r' => by
        dsimp only [upd]; split
        · next e => exact fun _ => ⟨if_pos (e ▸ rfl), e ▸ hc.1⟩
        · exact fun hne => ⟨upd_true (hs.usedPc r' hne).1 _, (hs.usedPc r' hne).2⟩
      upUsed := fun c hu => upd_true (hs.upUsed c hu) _
      finQuiet := fun hf => by rw [hc.2.2] at hf; cases hf },
      -- idle → waitUp: neither is a pc at which something is logged
      hl.same rfl fun t => by cases t <;> simp only [logged, upd] <;> grind⟩
  case upBegin r =>
    exact ⟨{ hs with
      -- no run of this context is past `Up()`: its cell was `fresh`
      pastDone := fun r' hp => by
        have := hs.pastDone r' hp
        dsimp only [upd]; split
        · next e => rw [e, hc.2] at this; cases this.1
        · exact this
      doneErr := forall_upd (P := fun c (o : Once) => o = .done → σ.upErr c = cfg.upFails c) hs.doneErr nofun
      upUsed := forall_upd (P := fun c (o : Once) => o ≠ .fresh → σ.used c = true) hs.upUsed
        fun _ => (hs.usedPc r (by rw [hc.1]; nofun)).1 },
      -- fresh → running: exactly `.up (ctxOf r)` becomes logged
      hl.snoc rfl (by simp [logged, hc.2])
        (fun t => by cases t <;> simp only [logged, upd] <;> grind) nofun nofun⟩
  case upEnd c =>
    exact ⟨{ hs with
      -- no run of this context is past `Up()`: its cell was `running`
      pastDone := fun r' hp => by
        have := hs.pastDone r' hp
        dsimp only [upd]; split
        · next e => rw [e, hc] at this; cases this.1
        · exact this
      doneErr := fun c' => by
        dsimp only [upd]; split
        · next e => exact fun _ => e ▸ rfl
        · exact hs.doneErr c'
      upUsed := forall_upd (P := fun c (o : Once) => o ≠ .fresh → σ.used c = true) hs.upUsed
        fun _ => hs.upUsed c (by rw [hc]; nofun) },
      -- running → done: both count as "`up` logged"
      hl.same rfl fun t => by cases t <;> simp only [logged, upd] <;> grind⟩
  case pass r =>
    have ha : (σ.pc r).active := by rw [hc.1]; trivial
    -- waitUp → fin true / passed: at none of the three is anything of the run logged
    split
    · exact ⟨hs.setPc (.fin true) _ ha nofun,
        hl.same rfl fun t => by cases t <;> simp only [logged, upd] <;> grind⟩
    · next he => exact ⟨hs.setPc .passed _ ha fun _ => ⟨hc.2, Bool.eq_false_iff.2 he⟩,
        hl.same rfl fun t => by cases t <;> simp only [logged, upd] <;> grind⟩
  case before r =>
    have ha : (σ.pc r).active := by rw [hc]; trivial
    have hp := hs.pastDone r (by rw [hc]; rfl)
    -- passed → ranBefore: exactly `.before (ctxOf r) r` becomes logged; `up` is there since the run is past `Up()`
    exact ⟨hs.setPc .ranBefore _ ha fun _ => hp,
      hl.snoc rfl (by simp [logged, hc]) (fun t => by cases t <;> simp only [logged, upd] <;> grind)
        (fun a e => by cases e; simp [logged, hp.1]) fun _ => hs.no_down ha⟩
  case task r =>
    have ha : (σ.pc r).active := by rw [hc]; trivial
    -- ranBefore → ranTask: exactly `.task r` becomes logged; its `before` is there by the old pc
    exact ⟨hs.setPc .ranTask _ ha fun _ => hs.pastDone r (by rw [hc]; rfl),
      hl.snoc rfl (by simp [logged, hc]) (fun t => by cases t <;> simp only [logged, upd] <;> grind)
        (fun a e => by cases e; simp [logged, hc]) fun _ => hs.no_down ha⟩
  case after r =>
    have ha : (σ.pc r).active := by rw [hc]; trivial
    -- ranTask → fin false: exactly `.after (ctxOf r) r` becomes logged; its `task` is there by the old pc
    exact ⟨hs.setPc (.fin false) _ ha fun _ => hs.pastDone r (by rw [hc]; rfl),
      hl.snoc rfl (by simp [logged, hc]) (fun t => by cases t <;> simp only [logged, upd] <;> grind)
        (fun a e => by cases e; simp [logged, hc]) fun _ => hs.no_down ha⟩
  case beginFinish =>
    exact ⟨{ hs with
      downUsed := fun c hd => ⟨(hs.downUsed c hd).1, rfl⟩
      finQuiet := fun _ r ha => not_active_of_quiescent hc (hs.usedPc r ha.ne_idle).2 ha },
      -- `logged` does not read `finishing`
      hl.same rfl fun _ => rfl⟩
  case down c =>
    exact ⟨{ hs with
      downUsed := forall_upd (P := fun c (b : Bool) => b = true → σ.used c = true ∧ σ.finishing = true)
        hs.downUsed fun _ => ⟨hc.2.1, hc.1⟩ },
      -- downDone c: false → true: exactly `.down c` becomes logged
      hl.snoc rfl (by simp [logged, hc.2.2])
        (fun t => by cases t <;> simp only [logged, upd] <;> grind) nofun nofun⟩

theorem hinv_run (cfg : Cfg) (as : List Act) : HInv cfg (run cfg init as) :=
  List.foldlRecOn as (step cfg) hinv_init fun _ h a _ => hinv_step h a

end

/-! ## The property -/

/-- **`up` runs at most once per context, under every interleaving**, and exactly once as soon as
any run got past `Up()` -/
theorem C14_up_once (cfg : Cfg) (as : List Act) (c : Nat) :
    (run cfg init as).log.count (.up c) ≤ 1 ∧
    (∀ r, cfg.ctxOf r = c → ((run cfg init as).pc r).past = true → (run cfg init as).log.count (.up c) = 1) := by
  have hl := hinv_run cfg as
  exact ⟨hl.count_le _, fun r hr hp => hl.count_eq_one.2 (by simp [logged, ← hr, (hl.pastDone r hp).1])⟩

/-- **`up` completes before any hook or command of any task of the context**: every context
`before` is preceded by `up`, every task execution by its context `before`, every context `after`
by the task — so `up` precedes them all. -/
theorem C14_up_first (cfg : Cfg) (as : List Act) (r : Nat) :
    Precedes (.up (cfg.ctxOf r)) (.before (cfg.ctxOf r) r) (run cfg init as).log ∧
    Precedes (.before (cfg.ctxOf r) r) (.task r) (run cfg init as).log ∧
    Precedes (.task r) (.after (cfg.ctxOf r) r) (run cfg init as).log := by
  have hl := hinv_run cfg as
  exact ⟨hl.order _ _ rfl, hl.order _ _ rfl, hl.order _ _ rfl⟩

/-- **if `up` fails no task of the context runs anything and each reports an error** -/
theorem C14_up_failure (cfg : Cfg) (as : List Act) (r : Nat) (hf : cfg.upFails (cfg.ctxOf r) = true) :
    (run cfg init as).log.count (.before (cfg.ctxOf r) r) = 0 ∧
    (run cfg init as).log.count (.task r) = 0 ∧
    (run cfg init as).log.count (.after (cfg.ctxOf r) r) = 0 ∧
    (∀ e, (run cfg init as).pc r = .fin e → e = true) := by
  have hl := hinv_run cfg as
  have hnp : ((run cfg init as).pc r).past = false := Bool.eq_false_iff.2 fun hp => by
    have := hl.pastDone r hp
    rw [hl.doneErr _ this.1, hf] at this; cases this.2
  -- a run that is not past `Up()` is idle, waiting, or ended with an error: none of these has logged anything
  cases hp : (run cfg init as).pc r with
  | fin e => cases e <;> simp [hl.count, logged, hp, Pc.past] at hnp ⊢
  | _ => simp [hl.count, logged, hp, Pc.past] at hnp ⊢

/-- **`before` once immediately before, `after` once after each task execution**: each at most
once per run, exactly once for a run that has completed (whether the task itself failed or not —
the `task` token stands for the whole run of the task in the runner model (`Model/Runner.lean`), including a failing or
skipped task) -/
theorem C14_before_after_once (cfg : Cfg) (as : List Act) (r c : Nat) :
    (run cfg init as).log.count (.before c r) ≤ 1 ∧ (run cfg init as).log.count (.after c r) ≤ 1 ∧
    (run cfg init as).log.count (.task r) ≤ 1 ∧
    ((run cfg init as).pc r = .fin false →
      (run cfg init as).log.count (.before (cfg.ctxOf r) r) = 1 ∧
      (run cfg init as).log.count (.task r) = 1 ∧
      (run cfg init as).log.count (.after (cfg.ctxOf r) r) = 1) ∧
    (c ≠ cfg.ctxOf r → (run cfg init as).log.count (.before c r) = 0 ∧
      (run cfg init as).log.count (.after c r) = 0) := by
  have hl := hinv_run cfg as
  exact ⟨hl.count_le _, hl.count_le _, hl.count_le _, fun hp => by simp [hl.count, logged, hp],
    fun hc => by simp [hl.count, logged, hc]⟩

/-- **`down` runs at most once, only for contexts that were used, only at shutdown, and after every
task, hook and command**: nothing belonging to a run follows it -/
theorem C14_down_once_last (cfg : Cfg) (as : List Act) (c : Nat) :
    (run cfg init as).log.count (.down c) ≤ 1 ∧
    ((run cfg init as).log.count (.down c) = 1 → (run cfg init as).used c = true ∧
        (run cfg init as).finishing = true) ∧
    NoneAfter isRunTok (.down c) (run cfg init as).log := by
  have hl := hinv_run cfg as
  exact ⟨hl.count_le _, fun h1 => hl.downUsed c (hl.count_eq_one.1 h1), hl.downLast c⟩

/-- a context no task used never runs `up` or `down` -/
theorem C14_unused_untouched (cfg : Cfg) (as : List Act) (c : Nat)
    (hu : (run cfg init as).used c = false) :
    (run cfg init as).log.count (.up c) = 0 ∧ (run cfg init as).log.count (.down c) = 0 := by
  have hl := hinv_run cfg as
  have h1 : (run cfg init as).onceUp c = .fresh := Decidable.byContradiction fun hne => by
    have := hl.upUsed c hne; rw [hu] at this; cases this
  have h2 : (run cfg init as).downDone c = false := Bool.eq_false_iff.2 fun hd => by
    have := (hl.downUsed c hd).1; rw [hu] at this; cases this
  simp [hl.count, logged, h1, h2]

/-- **shutdown always reaches `down`**: once every run has returned, `Finish` runs `down` for every
used context — this is what the CLI now does whether the target succeeded or failed -/
theorem C14_finish_runs_down (cfg : Cfg) (σ : HS) (c : Nat) (hq : quiescent cfg σ = true)
    (hu : σ.used c = true) (hd : σ.downDone c = false) :
    (run cfg σ [.beginFinish, .down c]).log = σ.log ++ [.down c] := by
  have h1 : step cfg σ .beginFinish = { σ with finishing := true } := by
    simp only [step, hq, if_true]
  simp only [run, List.foldl_cons, List.foldl_nil, h1]
  simp only [step, hu, hd, and_self, if_true]

/-! ## Non-vacuity: two runs share context 0, a third uses context 1 whose `up` fails -/
def exCfg : Cfg := { n := 3, ctxOf := fun r => if r = 2 then 1 else 0, upFails := fun c => c == 1 }
example : (run exCfg init (sequential exCfg 2)).log =
    [.up 0, .before 0 0, .task 0, .after 0 0, .before 0 1, .task 1, .after 0 1, .up 1, .down 0, .down 1] := by
  decide

-- the hypotheses of `C14_finish_runs_down` hold after the three runs: every run is over, context 0 is in use
example : quiescent exCfg (run exCfg init ((sequential exCfg 2).take 21)) = true ∧
    (run exCfg init ((sequential exCfg 2).take 21)).used 0 = true ∧
    (run exCfg init ((sequential exCfg 2).take 21)).downDone 0 = false := by decide

end Hooks
