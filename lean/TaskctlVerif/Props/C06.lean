import TaskctlVerif.Proofs.Runner
/-!
# C06 — commands of a task run one at a time, in order, and stop at the first failure

Model: `Model/Runner.lean` (`runTask`).  The trace is the list of commands that *began* executing,
in order; sequentiality is by construction in the model (one command at a time) and is what the
correspondence run checks on the implementation.  All theorems hold for every task: any number of
commands, variations, hooks, any exit statuses.
-/
namespace Runner

/-- **first failure ends the task**: without allow_failure, if the condition (if any) holds, every
`before` command succeeds, the jobs `pre` succeed and job `(v, j)` does not, then exactly
`condition, before…, pre…, (v, j)` ran — no later command, no `after` — and the task is errored. -/
theorem C06_first_failure (t : TaskSpec) (pre post : List (Nat × Nat)) (v j : Nat)
    (hallow : t.allow = false) (hc : condOk t) (hb : ∀ r ∈ t.before, r.ok = true)
    (hjobs : jobs t = pre ++ (v, j) :: post)
    (hpre : ∀ p ∈ pre, (t.res p.1 p.2).ok = true) (hfail : (t.res v j).ok = false) :
    (runTask t).trace = condToks t ++ beforeToks t ++ pre.map cmdTok ++
        (if (t.res v j).began then [Tok.cmd v j] else []) ∧
    (runTask t).errored = true ∧ (runTask t).err = true := by
  rw [runTask_stop t pre post v j hc hb hjobs (fun p hp => stops_of_ok _ (hpre p hp))
    (by rw [hallow, stops_without_allow, hfail]; rfl)]
  exact ⟨rfl, rfl, rfl⟩

/-- **allow_failure runs everything**: if no job ends with a non-exit-status error, every job runs
(variation-major, in order) and then every `after` command. -/
theorem C06_allow_runs_all (t : TaskSpec) (hallow : t.allow = true) (hc : condOk t)
    (hb : ∀ r ∈ t.before, r.ok = true)
    (hexit : ∀ p ∈ jobs t, ∃ n, t.res p.1 p.2 = .exit n) :
    (runTask t).trace = condToks t ++ beforeToks t ++ (jobs t).map cmdTok ++ runAfter 0 t.after ∧
    (runTask t).errored = false ∧ (runTask t).err = false := by
  rw [runTask_no_stop t hc hb fun p hp => stops_of_exit_allowed hallow (hexit p hp)]
  exact ⟨rfl, rfl, rfl⟩

/-- the same without allow_failure when every job succeeds -/
theorem C06_success_runs_all (t : TaskSpec) (hc : condOk t) (hb : ∀ r ∈ t.before, r.ok = true)
    (hok : ∀ p ∈ jobs t, (t.res p.1 p.2).ok = true) :
    (runTask t).trace = condToks t ++ beforeToks t ++ (jobs t).map cmdTok ++ runAfter 0 t.after ∧
    (runTask t).errored = false ∧ (runTask t).err = false := by
  rw [runTask_no_stop t hc hb fun p hp => stops_of_ok _ (hok p hp)]
  exact ⟨rfl, rfl, rfl⟩

/-- **a failing `before` prevents all commands** (and all later `before`s and every `after`) -/
theorem C06_before_stops (t : TaskSpec) (pre post : List CmdResult) (r : CmdResult)
    (hc : condOk t) (hbefore : t.before = pre ++ r :: post)
    (hpre : ∀ q ∈ pre, q.ok = true) (hr : r.ok = false) :
    (runTask t).trace = condToks t ++ (List.range pre.length).map Tok.before ++
        (if r.began then [Tok.before pre.length] else []) ∧
    (runTask t).err = true ∧ (∀ v j, Tok.cmd v j ∉ (runTask t).trace) ∧
    (∀ i, Tok.after i ∉ (runTask t).trace) := by
  have hb : runBefore 0 t.before = ((List.range pre.length).map Tok.before ++
      (if r.began then [Tok.before pre.length] else []), true) := by
    simp [hbefore, runBefore_append 0 pre _ hpre, runBefore, hr, List.range_eq_range']
  rw [runTask_of_condOk t hc, body_eq t _ hb rfl]
  simp [condToks]

/-- **a condition that exits non-zero prevents everything and marks the task skipped** -/
theorem C06_condition_skips (t : TaskSpec) (n : BitVec 8) (hn : n ≠ 0#8)
    (hc : t.cond = some (.exit n)) :
    (runTask t).trace = [Tok.cond] ∧ (runTask t).skipped = true ∧ (runTask t).err = false ∧
      (runTask t).errored = false := by
  rw [runTask_of_cond_exit t hc hn]
  exact ⟨rfl, rfl, rfl, rfl⟩

/-- a task without a `variations` key behaves as a task with exactly one variation -/
theorem C06_no_variations (t : TaskSpec) (h : t.vars = none) :
    runTask t = runTask { t with vars := some 1 } := by
  have hj : jobs t = jobs { t with vars := some 1 } := by rw [jobs, h]; rfl
  unfold runTask runTask.body
  rw [hj]

/-- the order of the jobs: for each variation in declared order, every command in declared order -/
theorem C06_jobs_order (t : TaskSpec) :
    jobs t = (List.range (t.vars.getD 1)).flatMap (fun v => (List.range t.nCmds).map (fun j => (v, j))) ∧
    (jobs t).length = t.vars.getD 1 * t.nCmds := by
  refine ⟨rfl, ?_⟩
  simp [jobs, List.length_flatMap, List.map_const', List.sum_replicate_nat]

def isAfter : Tok → Bool
  | .after _ => true
  | _ => false

@[simp] theorem isAfter_after (i : Nat) : isAfter (.after i) = true := rfl
@[simp] theorem isAfter_cond : isAfter .cond = false := rfl
@[simp] theorem isAfter_before (i : Nat) : isAfter (.before i) = false := rfl
@[simp] theorem isAfter_cmd (v j : Nat) : isAfter (.cmd v j) = false := rfl

/-- `after` commands run at most once each, in order, and nothing follows them: the `after` part of
the trace is a sub-list of `after 0, after 1, …` -/
theorem C06_after_once (t : TaskSpec) :
    ((runTask t).trace.filter isAfter).Sublist ((List.range t.after.length).map Tok.after) := by
  have hno : ∀ a ∈ condToks t ++ beforeToks t ++ (jobs t).map cmdTok, ¬isAfter a = true := by
    intro a ha
    cases a <;> simp [condToks, beforeToks, cmdTok] at ha ⊢
  have h := (trace_sublist_canon t).filter isAfter
  rw [canon_eq, List.filter_append, List.filter_eq_nil_iff.mpr hno] at h
  exact h.trans (List.filter_sublist ..)

/-! ## Non-vacuity -/
def exTask : TaskSpec :=
  { cond := none, before := [.exit 0#8], nCmds := 2, vars := some 2,
    res := fun v j => if v = 1 ∧ j = 0 then .exit 7#8 else .exit 0#8,
    after := [.exit 0#8], allow := false, initExit := 0 }
example : (runTask exTask).trace = [.before 0, .cmd 0 0, .cmd 0 1, .cmd 1 0] ∧
    (runTask exTask).errored = true := by decide
example : (runTask { exTask with allow := true }).trace =
    [.before 0, .cmd 0 0, .cmd 0 1, .cmd 1 0, .cmd 1 1, .after 0] := by decide

end Runner
