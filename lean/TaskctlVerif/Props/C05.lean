import TaskctlVerif.Proofs.Graph
/-!
# C05 — a pipeline is rejected as cyclic exactly when its dependencies form a cycle

Model: `Model/Graph.lean` (`build` = `NewExecutionGraph` / the `AddStage` loop of `buildPipeline`).
All theorems hold for every list of stages: any number of stages, any declaration order (the list
*is* the declaration order), self-loops, duplicate edges, edges to undeclared names.
-/
namespace Graph
variable {α : Type} [DecidableEq α]

/-- **C05 (main)**: building fails with the cycle error iff the declared depends_on relation has a
cycle. -/
theorem C05_iff (stages : List (Stage α)) :
    build stages = none ↔ HasCycle (edgesOf stages) := by
  rcases build_spec stages with ⟨h, hc⟩ | ⟨h, hc⟩ <;> simp [h, hc]

/-- every acyclic pipeline is accepted, and the accepted graph holds exactly the declared edges, in
declaration order, with multiplicity -/
theorem C05_edges (stages : List (Stage α)) (g : List (Edge α)) (h : build stages = some g) :
    g = edgesOf stages := by
  rcases build_spec stages with ⟨h', _⟩ | ⟨h', _⟩
  · cases h'.symm.trans h
  · exact Option.some.inj (h.symm.trans h')

theorem C05_accepts_acyclic (stages : List (Stage α)) (h : ¬ HasCycle (edgesOf stages)) :
    build stages = some (edgesOf stages) :=
  (build_spec stages).elim (fun h' => absurd h'.2 h) And.left

/-- `To(name)` of an accepted graph: the dependencies of the stages carrying that name, in order -/
theorem toOf_edgesOf (stages : List (Stage α)) (n : α) :
    toOf (edgesOf stages) n = (stages.filter (fun s => s.name = n)).flatMap (·.deps) := by
  induction stages with
  | nil => rfl
  | cons s ss ih =>
    have hs : edgesOf (s :: ss) = s.deps.map (fun d => (d, s.name)) ++ edgesOf ss := rfl
    rw [hs, toOf_append, toOf_map_pair, ih, List.filter_cons]
    by_cases hn : s.name = n
    · simp only [hn, if_true, decide_true, List.flatMap_cons]
    · simp only [hn, if_false, decide_false, Bool.false_eq_true, List.nil_append]

/-- with pairwise distinct stage names (enforced by `buildPipeline`), an accepted pipeline exposes
for every stage exactly its declared dependencies -/
theorem C05_to_exact (stages : List (Stage α)) (hnd : (stages.map (·.name)).Nodup)
    (g : List (Edge α)) (h : build stages = some g) (s : Stage α) (hs : s ∈ stages) :
    toOf g s.name = s.deps := by
  rw [C05_edges stages g h, toOf_edgesOf, filter_eq_singleton (·.name) hnd hs]
  simp

/-- who depends on `d` (`From(d)`): `s` is listed iff `d ∈ depends_on s` -/
theorem C05_from_exact (stages : List (Stage α)) (g : List (Edge α)) (h : build stages = some g)
    (d n : α) : n ∈ fromOf g d ↔ ∃ s ∈ stages, s.name = n ∧ d ∈ s.deps := by
  rw [C05_edges stages g h, mem_fromOf, mem_edgesOf]

/-- acceptance does not depend on the declaration order -/
theorem C05_order_irrelevant (s₁ s₂ : List (Stage α)) (hp : s₁.Perm s₂) :
    (build s₁ = none ↔ build s₂ = none) := by
  rw [C05_iff, C05_iff]
  have he : (edgesOf s₁).Perm (edgesOf s₂) := hp.flatMap_right _
  exact ⟨.mono he.subset, .mono he.symm.subset⟩

/-- self-dependency is a cycle -/
theorem C05_self_loop (stages : List (Stage α)) (s : Stage α) (hs : s ∈ stages)
    (hd : s.name ∈ s.deps) : build stages = none :=
  (C05_iff stages).mpr
    ⟨s.name, s.name, mem_fromOf.mpr (mem_edgesOf.mpr ⟨s, hs, rfl, hd⟩), .refl _⟩

/-! ## Regression witness for defect D1 (fixed): the pre-fix search ("visited twice" = cycle)
rejects an acyclic diamond when the fork is declared after the join; the repaired one accepts it. -/

/-- stages `3←{0,1}`, `1←{0}`, `0←{2}`, `2` declared in that order (D, B, A, X of DESIGN §6 D1) -/
def d1Witness : List (Stage Nat) :=
  [⟨3, [0, 1]⟩, ⟨1, [0]⟩, ⟨0, [2]⟩, ⟨2, []⟩]

theorem C05_witness_old_false_positive :
    buildOld d1Witness = none ∧ ¬ HasCycle (edgesOf d1Witness) :=
  ⟨by decide, fun h => absurd ((C05_iff d1Witness).mpr h) (by decide)⟩

/-! ## Non-vacuity -/
example : build ([⟨0, [1]⟩, ⟨1, [0]⟩] : List (Stage Nat)) = none := by decide
example : build d1Witness = some (edgesOf d1Witness) := by decide
example : HasCycle (edgesOf ([⟨0, [1]⟩, ⟨1, [0]⟩] : List (Stage Nat))) :=
  (C05_iff _).mp (by decide)

end Graph
