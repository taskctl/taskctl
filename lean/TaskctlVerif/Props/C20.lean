import TaskctlVerif.Model.Glob
/-!
# C20 — watchers observe exactly the selected paths and fire on the subscribed events  (**partial**)

Model: `Model/Glob.lean`.  Proved: the executable matcher coincides with the declarative semantics
of the pattern grammar (`Matches`), collapsing adjacent `**` before globbing changes nothing,
selection is exact, the event filter is exact, and the (state free) handler serves every event of
any sequence.  Not provable in a model: inotify delivery, event
coalescing and the once-a-second polling of the serve loop (OS/runtime) — exercised with real
inotify runs of the binary.
-/
namespace Glob

/-- declarative semantics of a segment pattern -/
inductive SegMatches : SegPat → List Char → Prop
  | nil : SegMatches [] []
  | lit (c : Char) {p s} : SegMatches p s → SegMatches (.lit c :: p) (c :: s)
  | qmark (c : Char) {p s} : SegMatches p s → SegMatches (.qmark :: p) (c :: s)
  | starZero {p s} : SegMatches p s → SegMatches (.star :: p) s
  | starMore (c : Char) {p s} : SegMatches (.star :: p) s → SegMatches (.star :: p) (c :: s)

/-- declarative semantics of a path pattern: `**` is zero or more whole segments, a trailing `**`
one or more -/
inductive Matches : List PSeg → List (List Char) → Prop
  | nil : Matches [] []
  | seg {p s ps rest} : SegMatches p s → Matches ps rest → Matches (.seg p :: ps) (s :: rest)
  | dstarLast {path} : path ≠ [] → Matches [.dstar] path
  | dstarZero {ps path} : ps ≠ [] → Matches ps path → Matches (.dstar :: ps) path
  | dstarMore {ps s rest} : ps ≠ [] → Matches (.dstar :: ps) rest → Matches (.dstar :: ps) (s :: rest)

theorem segMatch_sound : ∀ p s, segMatch p s = true → SegMatches p s := by
  intro p s
  fun_induction segMatch p s with
  | case1 s =>
    intro h
    rw [List.isEmpty_iff] at h
    exact h ▸ .nil
  | case2 p s ih1 ih2 =>
    intro h
    rw [Bool.or_eq_true] at h
    rcases h with h | h
    · exact .starZero (ih1 h)
    · cases s with
      | nil => cases h
      | cons c s' => exact .starMore c (ih2 h)
  | case3 => intro h; cases h
  | case4 p c s ih => intro h; exact .qmark c (ih h)
  | case5 => intro h; cases h
  | case6 a p c s ih =>
    intro h
    rw [Bool.and_eq_true, beq_iff_eq] at h
    exact h.1 ▸ .lit a (ih h.2)

theorem segMatch_complete {p s} (h : SegMatches p s) : segMatch p s = true := by
  induction h with
  | nil => rw [segMatch]; rfl
  | lit c _ ih => rw [segMatch, ih, beq_self_eq_true]; rfl
  | qmark c _ ih => rw [segMatch, ih]
  | starZero _ ih => rw [segMatch.eq_def]; simp only [ih, Bool.true_or]
  | starMore c _ ih => rw [segMatch.eq_def]; simp only [ih, Bool.or_true]

theorem segMatch_iff (p : SegPat) (s : List Char) : segMatch p s = true ↔ SegMatches p s :=
  ⟨segMatch_sound p s, segMatch_complete⟩

theorem gmatch_sound : ∀ ps path, gmatch ps path = true → Matches ps path := by
  intro ps path
  fun_induction gmatch ps path with
  | case1 path =>
    intro h
    rw [List.isEmpty_iff] at h
    exact h ▸ .nil
  | case2 => intro h; cases h
  | case3 p ps s rest ih =>
    intro h
    rw [Bool.and_eq_true] at h
    exact .seg (segMatch_sound p s h.1) (ih h.2)
  | case4 ps path hps =>
    intro h
    rw [List.isEmpty_iff] at hps
    exact hps ▸ .dstarLast (by simpa using h)
  | case5 ps path hps ih1 ih2 =>
    intro h
    have hne : ps ≠ [] := by simpa using hps
    rw [Bool.or_eq_true] at h
    rcases h with h | h
    · exact .dstarZero hne (ih1 h)
    · cases path with
      | nil => cases h
      | cons s rest => exact .dstarMore hne (ih2 h)

/-! What `gmatch` does on the empty path and, for a leading `**`, on a non-empty one; the proofs
below use these instead of unfolding the well-founded definition. -/

theorem gmatch_nil (ps : List PSeg) : gmatch ps [] = ps.isEmpty := by
  induction ps with
  | nil => simp [gmatch]
  | cons p ps ih => cases p <;> simp [gmatch, ih]

theorem gmatch_dstar_cons (ps : List PSeg) (s : List Char) (rest : List (List Char)) :
    gmatch (.dstar :: ps) (s :: rest) =
      (ps.isEmpty || gmatch ps (s :: rest) || gmatch (.dstar :: ps) rest) := by
  rw [gmatch]
  cases ps <;> simp

theorem gmatch_complete {ps path} (h : Matches ps path) : gmatch ps path = true := by
  induction h with
  | nil => rw [gmatch]; rfl
  | seg hs _ ih => rw [gmatch, segMatch_complete hs, ih]; rfl
  | @dstarLast path hne =>
    cases path with
    | nil => exact absurd rfl hne
    | cons s rest => rw [gmatch_dstar_cons]; rfl
  | @dstarZero ps path hne _ ih =>
    cases path with
    | nil => rw [gmatch_nil, List.isEmpty_iff] at ih; exact absurd ih hne
    | cons s rest => rw [gmatch_dstar_cons, ih, Bool.or_true, Bool.true_or]
  | dstarMore _ _ ih => rw [gmatch_dstar_cons, ih, Bool.or_true]

/-- **the matcher decides exactly the declarative semantics of the glob grammar**, for all patterns
and all paths -/
theorem C20_match_iff (ps : List PSeg) (path : List (List Char)) :
    gmatch ps path = true ↔ Matches ps path := ⟨gmatch_sound ps path, gmatch_complete⟩

/-- two adjacent `**` components mean the same as one -/
theorem gmatch_dstar_dstar (ps : List PSeg) : ∀ path, gmatch (.dstar :: .dstar :: ps) path = gmatch (.dstar :: ps) path := by
  intro path
  induction path with
  | nil => rw [gmatch_nil, gmatch_nil]; rfl
  | cons x rest ih =>
    -- whatever the outer `**` skips, the inner one can skip as well
    rw [gmatch_dstar_cons, ih, gmatch_dstar_cons ps]
    simp only [List.isEmpty_cons, Bool.false_or, Bool.or_assoc, Bool.or_self]

/-- matching depends on the rest of the pattern only through what the rest matches -/
theorem gmatch_congr (a : PSeg) (p q : List PSeg) (hm : ∀ y, gmatch p y = gmatch q y) :
    ∀ x, gmatch (a :: p) x = gmatch (a :: q) x := by
  -- the rests are empty together: only the empty pattern matches the empty path
  have he : p.isEmpty = q.isEmpty := by rw [← gmatch_nil, ← gmatch_nil, hm]
  intro x
  induction x with
  | nil => rw [gmatch_nil, gmatch_nil]; rfl
  | cons s rest ih =>
    cases a with
    | seg sp => rw [gmatch, gmatch, hm]
    | dstar => rw [gmatch_dstar_cons, gmatch_dstar_cons, he, hm, ih]

/-- **C20 (the include patterns are globbed after `collapseDoublestars`)**: dropping a `**` that
directly follows another one never changes which paths a pattern matches — the normalisation the
watcher applies before `doublestar.Glob` is neutral for the pattern semantics, for every pattern
and every path. -/
theorem C20_collapse_neutral (p : List PSeg) : ∀ x, gmatch (collapse p) x = gmatch p x := by
  fun_induction collapse p with
  | case1 ps ih =>
    intro x
    rw [ih x, gmatch_dstar_dstar]
  | case2 s ps _ ih => exact gmatch_congr s _ _ ih
  | case3 => intro x; rfl

-- non-vacuity: the normalisation does something, exactly on adjacent double stars
example : collapse [.dstar, .dstar, .seg [.qmark]] = [.dstar, .seg [.qmark]] := by simp [collapse]
example : collapse [.seg [.lit 'a'], .dstar, .dstar, .dstar, .seg [.lit 'b'], .dstar] =
    [.seg [.lit 'a'], .dstar, .seg [.lit 'b'], .dstar] := by simp [collapse]

/-- **a watcher observes exactly the paths that match at least one include pattern and no exclude
pattern**, for every tree and every pattern sets -/
theorem C20_select_exact (incl excl : List (List PSeg)) (tree : List (List (List Char)))
    (x : List (List Char)) :
    x ∈ select incl excl tree ↔
      x ∈ tree ∧ (∃ i ∈ incl, Matches i x) ∧ (∀ e ∈ excl, ¬ Matches e x) := by
  simp only [select, List.mem_filter, Bool.and_eq_true, List.any_eq_true, Bool.not_eq_true',
    List.any_eq_false, C20_match_iff]

/-- `*` and `?` do not cross `/`: one segment pattern consumes exactly one path segment -/
theorem C20_wildcards_stay_in_segment (p : SegPat) (ps : List PSeg) (path : List (List Char))
    (h : Matches (.seg p :: ps) path) : ∃ s rest, path = s :: rest ∧ SegMatches p s ∧ Matches ps rest := by
  cases h with
  | seg hs hr => exact ⟨_, _, rfl, hs, hr⟩

/-- **an event runs the task iff its type is among the subscribed events — all types when none are
listed** -/
theorem C20_event_filter (subscribed : List EvKind) (k : EvKind) :
    fires subscribed k = true ↔ (subscribed = [] ∨ k ∈ subscribed) := by
  rw [fires, Bool.or_eq_true, List.isEmpty_iff, List.contains_iff_mem]

/-- **the watcher keeps serving later events**: whatever happened before, every event of the
sequence whose type is subscribed runs the task, in order, with `EventName` and `EventPath`
describing that event; no other event does -/
theorem C20_serves_every_event (subscribed : List EvKind) (before after : List Event) (e : Event) :
    serve subscribed (before ++ e :: after) =
      serve subscribed before ++
        (if fires subscribed e.kind then [(e.kind, e.path)] else []) ++ serve subscribed after := by
  unfold serve
  rw [List.filterMap_append, List.filterMap_cons, List.append_assoc]
  cases fires subscribed e.kind <;> rfl

/-! ## Non-vacuity -/
example : Matches [.seg [.lit 's'], .dstar, .seg [.star, .lit 'g']] [['s'], ['a'], ['x', 'g']] :=
  .seg (.lit 's' .nil) (.dstarMore (by simp) (.dstarZero (by simp)
    (.seg (.starMore 'x' (.starZero (.lit 'g' .nil))) .nil)))
example : Matches [.dstar, .seg [.lit 'a']] [['a']] := .dstarZero (by simp) (.seg (.lit 'a' .nil) .nil)
example : ¬ Matches [.seg [.lit 'a'], .dstar] [['a']] := by
  intro h
  cases h with
  | seg _ hr => cases hr with
    | dstarLast hne => exact hne rfl
    | dstarZero hne _ => exact hne rfl
example : serve [.write] [⟨.create, "a"⟩, ⟨.write, "b"⟩, ⟨.write, "c"⟩] = [(.write, "b"), (.write, "c")] := by decide

end Glob
